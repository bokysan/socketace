/-
  SA.Proofs.HandshakeComplete — the handshake in terms of the byte stream: `ReadsRequest` (what `readRequest` makes of
  the bytes a reader holds), exactly when the server reports a session (`serverOn_established_iff`; on a run and in the
  words of C06, `serverRun_established_inv`), and completeness on well-formed wire messages (`serverRun_complete`,
  `clientRun_complete`): they are read back, and the server / client decision trees walk through to `established`.
-/
import SA.Proofs.HandshakeWire
import SA.Proofs.HandshakeSteps
namespace SA.Handshake

/-- a first-line field that may not contain a space or a line feed (method, URL; protocol of a response) -/
def wfWord (u : B) : Bool := !u.contains 32 && !u.contains 10
/-- the last first-line field: anything without a line feed -/
def wfTail (p : B) : Bool := !p.contains 10

theorem wfWord_spec {u : B} (h : wfWord u = true) : 32 ∉ u ∧ 10 ∉ u := by
  simpa [wfWord] using h
theorem wfTail_spec {p : B} (h : wfTail p = true) : 10 ∉ p := by
  simpa [wfTail] using h

theorem line_no_lf (a b c : B) (ha : 10 ∉ a) (hb : 10 ∉ b) (hc : 10 ∉ c) : 10 ∉ a ++ [32] ++ b ++ [32] ++ c := by
  simp only [List.mem_append, List.mem_singleton, not_or]
  exact ⟨⟨⟨⟨ha, by decide⟩, hb⟩, by decide⟩, hc⟩

/-- `s` starts with a request in the sense of the handshake code: a first line `m SP u SP p` with no space in
    `m` and `u`, then a MIME header block `h` closed by an empty line (as net/textproto reads it); `rest` is
    everything after that empty line.  (`fuel` only bounds the parser's loops; it is never exhausted.) -/
def ReadsRequest (fuel : Nat) (s m u p : B) (h : Headers) (rest : B) : Prop :=
  ∃ r', readHeader fuel ⟨s, []⟩ = some (m ++ [32] ++ u ++ [32] ++ p, h, r') ∧ r'.flat = rest ∧ 32 ∉ m ∧ 32 ∉ u

/-- `ReadsRequest` says what `readRequest` does on ANY reader that holds the bytes `s` (so after a first request too) -/
theorem readsRequest_iff {fuel : Nat} {r : Rd} {s m u p : B} {h : Headers} {rest : B} (hs : r.flat = s) :
    ReadsRequest fuel s m u p h rest ↔ ∃ r1, readRequest fuel r = .ok (⟨m, u, p, h⟩, r1) ∧ r1.flat = rest := by
  have hf : (⟨s, []⟩ : Rd).flat = r.flat := (flat_mk_nil s).trans hs.symm
  constructor
  · rintro ⟨r', e, hr, n⟩
    obtain ⟨r1, e1, h1⟩ := readRequest_sim_ok hf (readRequest_ok_iff.mpr ⟨e, n⟩)
    exact ⟨r1, e1, h1.trans hr⟩
  · rintro ⟨r1, e, hr⟩
    obtain ⟨rb, e', hb⟩ := readRequest_sim_ok hf.symm e
    obtain ⟨eh, n⟩ := readRequest_ok_iff.mp e'
    exact ⟨rb, eh, hb.trans hr, n⟩

theorem readRequest_wire (m u p : B) (hs : Headers) (hm : wfWord m = true) (hu : wfWord u = true)
    (hp : wfTail p = true) (hw : wfHeaders hs = true) (f : Nat) (hf : hs.length < f) (rest : B) :
    readRequest f ⟨wireRequest m u p hs ++ rest, []⟩ = .ok (⟨m, u, p, parsedHeaders hs⟩, ⟨rest, []⟩) := by
  obtain ⟨m1, m2⟩ := wfWord_spec hm
  obtain ⟨u1, u2⟩ := wfWord_spec hu
  exact readRequest_ok_iff.mpr ⟨readHeader_wire _ (line_no_lf m u p m2 u2 (wfTail_spec hp)) _ hw f hf rest, m1, u1⟩

theorem readsRequest_wire (m u p : B) (hs : Headers) (hm : wfWord m = true) (hu : wfWord u = true)
    (hp : wfTail p = true) (hw : wfHeaders hs = true) (f : Nat) (hf : hs.length < f) (rest : B) :
    ReadsRequest f (wireRequest m u p hs ++ rest) m u p (parsedHeaders hs) rest :=
  (readsRequest_iff (flat_mk_nil _)).mpr ⟨_, readRequest_wire m u p hs hm hu hp hw f hf rest, flat_mk_nil rest⟩

theorem readRequest_render (m u p : B) (hs : Headers) (hm : wfWord m = true) (hu : wfWord u = true)
    (hp : wfTail p = true) (hw : wfHeaders hs = true) (f : Nat) (hf : hs.length < f) (rest : B) :
    readRequest f ⟨renderRequest m u p hs ++ rest, []⟩ = .ok (⟨m, u, p, parsedHeaders hs⟩, ⟨rest, []⟩) := by
  rw [← parsedHeaders_render]
  exact readRequest_wire m u p _ hm hu hp (wfHeaders_render _ hw) f (by simpa [renderHeaders] using hf) rest

theorem readResponse_wire (proto st text : B) (code : Int) (hs : Headers) (hpr : wfWord proto = true)
    (hst : wfWord st = true) (hc : parseInt32 st = some code)
    (ht : wfTail text = true) (hw : wfHeaders hs = true) (f : Nat) (hf : hs.length < f) (rest : B) :
    readResponse f ⟨wireResponse proto st text hs ++ rest, []⟩ =
      .ok (⟨proto, code, text, parsedHeaders hs⟩, ⟨rest, []⟩) := by
  obtain ⟨p1, p2⟩ := wfWord_spec hpr
  obtain ⟨s1, s2⟩ := wfWord_spec hst
  have hl := line_no_lf proto st text p2 s2 (wfTail_spec ht)
  unfold readResponse wireResponse
  rw [readHeader_wire _ hl _ hw f hf rest]
  simp only [parseResponseLine_render proto st text code p1 s1 hc]

/-- server.go negotiateVersion, as a partial function: the first version of the server's list
    (`SupportedProtocolVersions`, in that order) that occurs in the client's comma-separated list -/
def firstSupported (accepted : B) : Option B :=
  Gen.supportedVersions.find? (fun v => (splitField accepted).contains v)

theorem gen_supportedVersions_ne_nil : [] ∉ Gen.supportedVersions := by decide

/-- `negotiate` is `firstSupported`, "none" written as the empty version (which the server's list does not hold) -/
theorem negotiate_eq_iff {acc v : B} : negotiate acc = v ∧ v ≠ [] ↔ firstSupported acc = some v := by
  unfold firstSupported
  simp only [negotiate]
  cases hf : Gen.supportedVersions.find? (fun v => (splitField acc).contains v) with
  | none => exact ⟨fun ⟨h, hne⟩ => absurd h.symm hne, nofun⟩
  | some w =>
    have hw : w ≠ [] := fun e => absurd (e ▸ List.mem_of_find?_eq_some hf) gen_supportedVersions_ne_nil
    exact ⟨fun ⟨h, _⟩ => congrArg some h, fun h => by cases h; exact ⟨rfl, hw⟩⟩

theorem firstSupported_mem {acc v : B} (h : firstSupported acc = some v) :
    v ∈ Gen.supportedVersions ∧ v ∈ splitField acc :=
  ⟨List.mem_of_find?_eq_some h, by simpa using List.find?_some h⟩

/-- the `Security: StartTLS` test of server.go upgrade (`AsksTls`) as a Bool, on header lines as they stand on the wire -/
def asksStartTls (hs : Headers) : Bool :=
  goUpper (hget (parsedHeaders hs) bSecurity) == goUpper Gen.srvSecurityToken

theorem announceVerdict_ok_iff {q : Request} {v : B} :
    announceVerdict q = .ok v ↔
      q.method = Gen.srvAnnounceMethod ∧ firstSupported (hget q.headers Gen.acceptsProtocolVersion) = some v := by
  unfold announceVerdict
  rw [← negotiate_eq_iff]
  by_cases hm : q.method = Gen.srvAnnounceMethod
  case neg => simp [hm]
  by_cases hn : negotiate (hget q.headers Gen.acceptsProtocolVersion) = []
  · simp [hm, hn]
  · simp only [hm, hn, ne_eq, not_true, if_false, Except.ok.injEq, true_and]
    exact ⟨fun h => ⟨h, h ▸ hn⟩, And.left⟩

theorem serverOn_established_iff {cfg : SrvCfg} {tls : B → Bool} {f : Nat} {r : Rd} {bs v : B} {t : Tech} {s : Bool} {l : B}
    (hb : r.flat = bs) :
    (serverOn cfg tls f r).out = .established v t s l ↔
    ∃ u p hd rest q rest2,
      ReadsRequest f bs Gen.srvAnnounceMethod u p hd rest ∧
      firstSupported (hget hd Gen.acceptsProtocolVersion) = some v ∧
      ReadsRequest f rest q.method q.url q.proto q.headers rest2 ∧ Passes v q ∧
      (AsksTls q → CanStartTls cfg ∧ tls rest2 = true) ∧
      expectedSession cfg v (decide (AsksTls q)) rest2 = .established v t s l := by
  rw [serverOn_steps]
  constructor
  · intro h
    cases hr : readRequest f r with
    | err => rw [hr] at h; cases h
    | panic => rw [hr] at h; cases h
    | ok x =>
      obtain ⟨⟨m, u, p, hd⟩, r1⟩ := x
      rw [hr] at h
      dsimp only at h
      cases ha : announceVerdict ⟨m, u, p, hd⟩ with
      | error st => rw [ha] at h; cases h
      | ok n =>
        rw [ha] at h
        obtain ⟨q, r2, e2, hp, hs, he⟩ := upgradeStep_established_iff.mp h
        obtain rfl := expectedSession_version he
        obtain ⟨rfl, hv⟩ := announceVerdict_ok_iff.mp ha
        exact ⟨u, p, hd, _, q, _, (readsRequest_iff hb).mpr ⟨r1, hr, rfl⟩, hv,
          (readsRequest_iff rfl).mpr ⟨r2, e2, rfl⟩, hp, hs, he⟩
  · rintro ⟨u, p, hd, rest, q, rest2, R1, hv, R2, hp, hs, he⟩
    obtain ⟨r1, e1, rfl⟩ := (readsRequest_iff hb).mp R1
    obtain ⟨r2, e2, rfl⟩ := (readsRequest_iff rfl).mp R2
    rw [e1]
    dsimp only
    rw [(announceVerdict_ok_iff (q := ⟨Gen.srvAnnounceMethod, u, p, hd⟩)).mpr ⟨rfl, hv⟩]
    exact upgradeStep_established_iff.mpr ⟨q, r2, e2, hp, hs, he⟩

/-- `serverOn_established_iff`, left to right, on a run and in the words of the property: the reading of the stream, with
    the three checks and the StartTLS condition written out (the right-hand side of `C06_admits_exactly`), and what is
    handed on by a session that is not StartTLS-secured.  (`Gen.srvAnnounceMethod`, what
    the server tests for, and `Gen.requestMethod`, what the client sends and the property speaks of, are two regenerated
    constants; where one is given for the other, as here, they are identified by evaluation.) -/
theorem serverRun_established_inv {cfg : SrvCfg} {tls : B → Bool} {chunks : List B} {v : B} {t : Tech} {s : Bool} {left : B}
    (h : (serverRun cfg tls chunks).out = .established v t s left) :
    ∃ u p hd rest u2 p2 hd2 rest2,
      (ReadsRequest (chunks.flatten.length + 2) chunks.flatten Gen.requestMethod u p hd rest ∧
       firstSupported (hget hd Gen.acceptsProtocolVersion) = some v ∧
       ReadsRequest (chunks.flatten.length + 2) rest Gen.srvUpgradeMethod u2 p2 hd2 rest2 ∧
       goLower (hget hd2 bConnection) = Gen.srvUpgradeConnection ∧
       hget hd2 bUpgrade = Gen.srvUpgradePrefix ++ v ∧
       (goUpper (hget hd2 bSecurity) = goUpper Gen.srvSecurityToken →
         cfg.secure = false ∧ cfg.cert = .ok ∧ tls rest2 = true)) ∧
      (t ≠ .tls → left = rest2) := by
  rw [serverRun_flat] at h
  obtain ⟨u, p, hd, rest, ⟨m2, u2, p2, hd2⟩, rest2, R1, hv, R2, ⟨hm, hc, hu⟩, hs, he⟩ :=
    (serverOn_established_iff (flat_mk_nil _)).mp h
  obtain rfl : m2 = Gen.srvUpgradeMethod := hm
  refine ⟨u, p, hd, rest, u2, p2, hd2, rest2, ⟨R1, hv, R2, hc, hu, fun a => and_assoc.mp (hs a)⟩, fun ht => ?_⟩
  -- the session is one of the two of `expectedSession`: over TLS, or with `rest2` handed on
  unfold expectedSession at he
  split at he <;> cases he
  · exact absurd rfl ht
  · rfl

/-- the decidable well-formedness of a pair of requests apart from the significant header values: URLs without
    space / LF, protocol fields without LF, every header line `wfHeader` (name: non-empty, token bytes or spaces,
    not starting with a space; raw value after the colon: `validHeaderValueByte`s only) -/
def wfRequestPair (u p : B) (ws1 : Headers) (u2 p2 : B) (ws2 : Headers) : Bool :=
  wfWord u && wfTail p && wfHeaders ws1 && wfWord u2 && wfTail p2 && wfHeaders ws2

def wfResponsePair (pr st text : B) (ws1 : Headers) (pr2 st2 text2 : B) (ws2 : Headers) : Bool :=
  wfWord pr && wfWord st && wfTail text && wfHeaders ws1 && wfWord pr2 && wfWord st2 && wfTail text2 && wfHeaders ws2

theorem wfRequestPair_render {u p : B} {hs1 : Headers} {u2 p2 : B} {hs2 : Headers}
    (h : wfRequestPair u p hs1 u2 p2 hs2 = true) :
    wfRequestPair u p (renderHeaders hs1) u2 p2 (renderHeaders hs2) = true := by
  simp only [wfRequestPair, Bool.and_eq_true] at h ⊢
  obtain ⟨⟨⟨⟨⟨hu, hp⟩, hw1⟩, hu2⟩, hp2⟩, hw2⟩ := h
  exact ⟨⟨⟨⟨⟨hu, hp⟩, wfHeaders_render _ hw1⟩, hu2⟩, hp2⟩, wfHeaders_render _ hw2⟩

/-- the fuel of a run, two more than the bytes of the stream, exceeds the header count of each of two wire messages in it -/
theorem fuel_wire (l1 l2 : B) (hs1 hs2 : Headers) (rest : B) :
    hs1.length < (wireMessage l1 hs1 ++ (wireMessage l2 hs2 ++ rest)).length + 2 ∧
    hs2.length < (wireMessage l1 hs1 ++ (wireMessage l2 hs2 ++ rest)).length + 2 := by
  have a := length_lt_wireMessage l1 hs1
  have b := length_lt_wireMessage l2 hs2
  rw [List.length_append, List.length_append]
  omega

/-- **completeness on the wire (server)**: a well-formed, compatible pair of requests, however it is cut into reads, is read
    back (`readsRequest_wire`) and walks through both steps (`serverOn_established_iff`, right to left) -/
theorem serverRun_complete (cfg : SrvCfg) (tls : B → Bool) {u p : B} {hs1 : Headers} {u2 p2 : B} {hs2 : Headers}
    {rest v : B} {chunks : List B}
    (hchunks : chunks.flatten =
      wireRequest Gen.requestMethod u p hs1 ++ wireRequest Gen.srvUpgradeMethod u2 p2 hs2 ++ rest)
    (hwf : wfRequestPair u p hs1 u2 p2 hs2 = true)
    (hv : firstSupported (hget (parsedHeaders hs1) Gen.acceptsProtocolVersion) = some v)
    (hc : goLower (hget (parsedHeaders hs2) bConnection) = Gen.srvUpgradeConnection)
    (hup : hget (parsedHeaders hs2) bUpgrade = Gen.srvUpgradePrefix ++ v)
    (htls : asksStartTls hs2 = true → CanStartTls cfg ∧ tls rest = true) :
    (serverRun cfg tls chunks).out = expectedSession cfg v (asksStartTls hs2) rest := by
  rw [serverRun_flat, hchunks, List.append_assoc]
  simp only [wfRequestPair, Bool.and_eq_true] at hwf
  obtain ⟨⟨⟨⟨⟨hu, hp⟩, hw1⟩, hu2⟩, hp2⟩, hw2⟩ := hwf
  obtain ⟨hf1, hf2⟩ := fuel_wire _ _ hs1 hs2 rest
  obtain ⟨t, s, l, he⟩ := expectedSession_established cfg v (asksStartTls hs2) rest
  rw [he]
  have ha : asksStartTls hs2 = decide (AsksTls ⟨Gen.srvUpgradeMethod, u2, p2, parsedHeaders hs2⟩) :=
    Bool.beq_eq_decide_eq _ _
  -- first `rfl`: the method the client sends is the one the server tests for (see `serverRun_established_inv`)
  exact (serverOn_established_iff (flat_mk_nil _)).mpr ⟨u, p, _, _, ⟨Gen.srvUpgradeMethod, u2, p2, parsedHeaders hs2⟩, rest,
    readsRequest_wire Gen.requestMethod u p hs1 rfl hu hp hw1 _ hf1 _, hv,
    readsRequest_wire Gen.srvUpgradeMethod u2 p2 hs2 rfl hu2 hp2 hw2 _ hf2 rest, ⟨rfl, hc, hup⟩,
    fun h => htls (by rw [ha]; exact decide_eq_true h), ha ▸ he⟩

/-- **completeness on the wire (client)**: two well-formed replies with the statuses 200 and 101 are read back
    (`readResponse_wire`) and walk through `clientOn_established_iff`, right to left -/
theorem clientRun_complete (s0 : Bool) (tls : B → Bool) {pr st text : B} {hs1 : Headers} {pr2 st2 text2 : B} {hs2 : Headers}
    {rest : B} {chunks : List B}
    (hchunks : chunks.flatten = wireResponse pr st text hs1 ++ wireResponse pr2 st2 text2 hs2 ++ rest)
    (hwf : wfResponsePair pr st text hs1 pr2 st2 text2 hs2 = true)
    (hc1 : parseInt32 st = some Gen.cliHandshakeStatus) (hc2 : parseInt32 st2 = some Gen.cliUpgradeStatus)
    (htls : shouldStartTls s0 (hget (parsedHeaders hs1) Gen.capabilitiesHdr) = true → tls rest = true) :
    (clientRun s0 tls chunks).out
      = if shouldStartTls s0 (hget (parsedHeaders hs1) Gen.capabilitiesHdr)
        then .established (hget (parsedHeaders hs1) bProtocolVersion) .tls true []
        else .established (hget (parsedHeaders hs1) bProtocolVersion)
          (if s0 then .underlying else .none) s0 rest := by
  rw [clientRun_flat, hchunks, List.append_assoc]
  simp only [wfResponsePair, Bool.and_eq_true] at hwf
  obtain ⟨⟨⟨⟨⟨⟨⟨hpr, hst⟩, ht⟩, hw1⟩, hpr2⟩, hst2⟩, ht2⟩, hw2⟩ := hwf
  obtain ⟨hf1, hf2⟩ := fuel_wire _ _ hs1 hs2 rest
  have r1 := readResponse_wire pr st text _ hs1 hpr hst hc1 ht hw1 _ hf1 (wireResponse pr2 st2 text2 hs2 ++ rest)
  have r2 := readResponse_wire pr2 st2 text2 _ hs2 hpr2 hst2 hc2 ht2 hw2 _ hf2 rest
  -- either way the session is `clientSession` on what the first reply says, with TLS completing (`htls`) where it is gone into
  split
  · exact clientOn_established_iff.mpr ⟨_, _, _, _, r1, rfl, r2, rfl, by
      rw [flat_mk_nil]; unfold clientSession; rw [if_pos ‹_›, htls ‹_›]; rfl⟩
  · exact clientOn_established_iff.mpr ⟨_, _, _, _, r1, rfl, r2, rfl, by
      rw [flat_mk_nil]; unfold clientSession; rw [if_neg ‹_›]⟩

end SA.Handshake
