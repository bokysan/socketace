/-
  SA.Proofs.DnsCommit — one attempt of the commit loop (SA.Model.DnsCommit) fate by fate, and the shapes of the four
  commit functions as regenerated.  C11's commit theorems follow a schedule attempt by attempt through these equations.
-/
import SA.Model.DnsCommit
namespace SA.DnsCommit

variable {s : Step} {k : Nat} {t : List Fate} {st : St}

/-- the failure branch of an attempt (`loop`'s local `onFail`): the client falls back, then the branch's shape decides -/
def onFail (s : Step) (k : Nat) (t : List Fate) (a : OnFail) (st : St) : Ret × St :=
  match a with
  | .retErr => (.err, failClient s st)
  | .retNil => (.nil, failClient s st)
  | .fallThrough => loop s k t (failClient s st)
  | .unknown => (.unknown, failClient s st)

/-- the value an attempt asks for: what the client already uses, or the requested one -/
def want (s : Step) (st : St) : String := if s.shape.holdsReq then st.cv else s.req

/-- an exhausted schedule answers -/
theorem loop_nil : loop s (k + 1) [] st = loop s (k + 1) [.ok] st := rfl

theorem loop_cons_ok :
    loop s (k + 1) (.ok :: t) st = (.nil, { st with n := st.n + 1, sv := want s st, cv := want s st }) := rfl

/-- query lost: the server has seen nothing -/
theorem loop_cons_ql : loop s (k + 1) (.ql :: t) st = onFail s k t s.shape.commErr { st with n := st.n + 1 } := rfl

/-- answer lost: the server has applied the request -/
theorem loop_cons_al :
    loop s (k + 1) (.al :: t) st = onFail s k t s.shape.commErr { st with n := st.n + 1, sv := want s st } := rfl

theorem failClient_sv : (failClient s st).sv = st.sv := by unfold failClient; split <;> rfl

theorem failClient_cv (hh : s.shape.holdsReq = true) : (failClient s st).cv = s.dflt := by rw [failClient, if_pos hh]

/-! ### the shapes read from the source -/

theorem gen_shape_frag :
    Shape.gen "SwitchFragmentSize" = { tries := 5, commErr := .retErr, srvErr := .retNil, holdsReq := false } := by
  decide +kernel
theorem gen_shape_up :
    Shape.gen "SetEncodingUpstream" = { tries := 5, commErr := .retNil, srvErr := .retNil, holdsReq := true } := by
  decide +kernel
theorem gen_shape_down :
    Shape.gen "SetEncodingDownstream" = { tries := 5, commErr := .retNil, srvErr := .retNil, holdsReq := true } := by
  decide +kernel
theorem gen_shape_lazy :
    Shape.gen "AutodetectLazyMode" = { tries := 5, commErr := .fallThrough, srvErr := .fallThrough, holdsReq := true } := by
  decide +kernel

end SA.DnsCommit
