/-
  SA.Proofs.DirectEnd — `HandleConnection` over the answer of `ConnectDirectly` (SA.Model.DirectEnd): what it does when the
  answer is yes, what when it is no, and when the intended code says which.
-/
import SA.Model.DirectEnd
namespace SA.DirectEnd
open SA.Policy

theorem handleConn_taken {D : DFacts} {dialOk : Bool} {e : End} (h : connectDirectly D (pathOf dialOk e) = true)
    (F : Facts) (c : Cfg) (sh : Sh) :
    handleConn D F c sh dialOk e
      = { sh := sh, who := if dialOk then .direct else .fail, logical := 0, carrier := none } := by
  rw [handleConn, if_pos h]

theorem handleConn_fallback {D : DFacts} {dialOk : Bool} {e : End} (h : connectDirectly D (pathOf dialOk e) = false)
    (F : Facts) (c : Cfg) (sh : Sh) :
    handleConn D F c sh dialOk e
      = let k := connect F { c with fwd := .absent } sh true
        { sh := k.1, who := if dialOk then .direct else k.2.1, logical := if isUp k.2.1 then 1 else 0,
          carrier := k.2.2 } := by
  rw [handleConn, if_neg (by simp [h])]

/-- the intended code takes the direct route exactly when the dial succeeded, however the piping ends -/
theorem connectDirectly_intended (dialOk : Bool) (e : End) : connectDirectly DFacts.intended (pathOf dialOk e) = dialOk := by
  cases dialOk <;> cases e <;> rfl

theorem gen_directReturns : DFacts.current = DFacts.intended := by decide

end SA.DirectEnd
