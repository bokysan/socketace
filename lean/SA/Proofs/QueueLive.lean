/-
  SA.Proofs.QueueLive — liveness of the DNS-tunnel queue pair (model SA.Model.Queue):
  "once the path stops losing, everything accepted arrives".

  Needs, on top of the link invariant, what the receiver's duplicate cache `InQ.acked` contains (`InAck`, the
  `cache` clause of `Link`; regenerated fact `inTrim = 2`): the number the receiver waits for is never cached (so
  the head of `out` is released when it arrives), and the last released number is cached (so a retransmission of
  it is answered with success, not with "invalid chunk sequence").

  Under the invariant a delivered exchange is two `End.recv`, each of the peer's message of the moment (`End.msg`;
  `xchg_d_eq`), and one such `recv` releases the peer's head chunk and drops the own head chunk if the peer has
  released it (`recv_fresh`).
  Variant: one delivered exchange removes the head of a non-empty `A.out`; for `B.out` the first delivered exchange
  may only carry the chunk (the acknowledgement travels in the *next* query), after that every delivered exchange
  removes the head: `nuB`.  Every other write-free step only moves indices forward (`Adv`), which cannot raise
  either measure (`out_hd_eq`, `nuB_mono`).
-/
import SA.Proofs.Queue
namespace SA.Queue

section progress
variable {c : Cfg} {sab sba K Bd : Nat}

theorem append_head {s A : Nat} {o : OutQ} {i : InQ} (l : Link c s A Bd o i) (ht : c.inTrim = 2) {p : Pkt}
    (hp : o.out.head? = some p) :
    (i.append c (some p)).2 = true ∧ (i.append c (some p)).1.cnt = o.hd + 1 := by
  obtain ⟨d, -, rfl⟩ := head_pktIs l.toLinkInv hp
  have hr1 := l.hr1; have hr2 := l.hr2; have hbd := l.consts.bound
  have ha := l.cache ht
  rcases Nat.lt_or_ge o.hd i.cnt with hlt | hge
  · -- already released: the retransmission is a known duplicate
    rw [InQ.append_dup (ha.last_mem l.consts.max1 (show o.hd + 1 = i.cnt by omega))]
    exact ⟨rfl, show i.cnt = o.hd + 1 by omega⟩
  · have he : i.cnt = o.hd := by omega
    rw [InQ.append_next_nil (he ▸ ha.not_next (by omega)) (by rw [l.hinext, he]) l.hfut]
    exact ⟨rfl, show i.cnt + 1 = o.hd + 1 by omega⟩

theorem recv_fresh {sOut sIn A : Nat} {e pe : End} (ht : c.inTrim = 2) (j : Joined c sOut sIn A Bd e pe) :
    (e.inq.append c (pe.msg c).pkt).2 = true ∧
    (pe.outq.out ≠ [] → (e.recv c (pe.msg c)).inq.cnt = pe.outq.hd + 1) ∧
    (pe.inq.cnt = e.outq.hd + 1 → (e.recv c (pe.msg c)).outq.hd = e.outq.hd + 1) := by
  obtain ⟨lout, lin, -, -⟩ := j
  unfold End.recv End.msg
  refine ⟨?_, ?_, ?_⟩
  · cases hh : pe.outq.out.head? with
    | none => rfl
    | some p => exact (append_head lin ht hh).1
  · intro hne
    cases hh : pe.outq.out.head? with
    | none => exact absurd (List.head?_eq_none_iff.mp hh) hne
    | some p => exact (append_head lin ht hh).2
  · rw [lout.hinext, ackOf_seqOf lout.consts.ack]
    exact lout.toLinkInv.updateAcked_head lout.consts (Nat.le_refl _) (Nat.le_add_right _ _)

theorem xchg_d_eq {st : Sys} (ht : c.inTrim = 2) (h : SysInv c sab sba K Bd st) :
    (xchgS c st .d).b = st.b.recv c (st.a.msg c) ∧
    (xchgS c st .d).a = st.a.recv c ((st.b.recv c (st.a.msg c)).msg c) ∧
    Joined c sab sba (K + 1) Bd st.a (st.b.recv c (st.a.msg c)) := by
  obtain ⟨j1, -⟩ := recv_inv h.toJoined.symm ((fresh_msg h.toJoined).mono (Nat.zero_le _))
  -- B's `Append` succeeds, so it answers, and its extra `cleanAckedChunks` finds nothing
  have hcl : (st.b.outq.updateAcked c (st.a.msg c).ack (st.a.msg c).gAck).clean c = _ := j1.fwd.clean_eq
  simp only [xchgS, mkQuery_eq h.fwd]
  rw [serve_ok (recv_fresh ht h.toJoined.symm).1]
  simp only [hcl]
  exact ⟨rfl, rfl, j1.symm⟩

/-- variant for B's out-queue: its length, plus one while A has not yet released its head -/
def nuB (st : Sys) : Nat :=
  if st.b.outq.out.length = 0 then 0
  else st.b.outq.out.length + (if st.a.inq.cnt = st.b.outq.hd + 1 then 0 else 1)

theorem nuB_le (st : Sys) : nuB st ≤ st.b.outq.out.length + 1 := by
  unfold nuB; split
  · omega
  · split <;> omega

theorem nuB_zero {st : Sys} (h : nuB st = 0) : st.b.outq.out = [] := by
  unfold nuB at h
  split at h
  · next h0 => exact List.eq_nil_of_length_eq_zero h0
  · omega

theorem nuB_eq {s A : Nat} {st : Sys} (l : LinkInv c s A Bd st.b.outq st.a.inq) :
    nuB st = if st.b.outq.nW = st.b.outq.hd then 0 else st.b.outq.nW + 1 - st.a.inq.cnt := by
  have := l.out_len; have := l.hr1; have := l.hr2
  unfold nuB
  -- nothing is queued exactly when `n = hd`
  by_cases h0 : st.b.outq.out.length = 0
  · rw [if_pos h0, if_pos (show st.b.outq.nW = st.b.outq.hd by omega)]
  · rw [if_neg h0, if_neg (show st.b.outq.nW ≠ st.b.outq.hd by omega)]
    split <;> omega

/-- across a write-free step what A has queued shrinks by as much as its head moves -/
theorem out_hd_eq {st st' : Sys} {n : Nat} (h : SysInv c sab sba K Bd st) (h' : SysInv c sab sba K Bd st')
    (ma : Adv n st.a st'.a) :
    st'.a.outq.out.length + st'.a.outq.hd = st.a.outq.out.length + st.a.outq.hd := by
  rw [h'.fwd.out_len, h.fwd.out_len, h'.fwd.hnW, h.fwd.hnW, ma.wr]

/-- the variant of `B.out` does not grow across a write-free step: in the closed form `nuB_eq` the indices only move
    forward -/
theorem nuB_mono {st st' : Sys} {n m : Nat} (h : SysInv c sab sba K Bd st) (h' : SysInv c sab sba K Bd st')
    (ma : Adv n st.a st'.a) (mb : Adv m st.b st'.b) : nuB st' ≤ nuB st := by
  have n2 : st'.b.outq.nW = st.b.outq.nW := by rw [h'.bwd.hnW, h.bwd.hnW, mb.wr]
  rw [nuB_eq h.bwd.toLinkInv, nuB_eq h'.bwd.toLinkInv, n2]
  have := h'.bwd.hr1; have := n2 ▸ h'.bwd.hrn; have := mb.hd; have := ma.cnt
  split
  · exact Nat.zero_le _
  · rw [if_neg (by omega)]; omega   -- something is queued afterwards, so before as well

/-- … and it falls across a step in which B drops a head that A had released (`hb`) and A releases the new head (`ha`):
    a delivered exchange -/
theorem nuB_dec {st st' : Sys} {n m : Nat} (h : SysInv c sab sba K Bd st) (h' : SysInv c sab sba K Bd st')
    (ma : Adv n st.a st'.a) (mb : Adv m st.b st'.b)
    (hb : st.a.inq.cnt = st.b.outq.hd + 1 → st'.b.outq.hd = st.b.outq.hd + 1)
    (ha : st'.b.outq.out ≠ [] → st'.a.inq.cnt = st'.b.outq.hd + 1) : nuB st' ≤ nuB st - 1 := by
  have n2 : st'.b.outq.nW = st.b.outq.nW := by rw [h'.bwd.hnW, h.bwd.hnW, mb.wr]
  have ha' : st.b.outq.nW ≠ st'.b.outq.hd → st'.a.inq.cnt = st'.b.outq.hd + 1 := fun hn => ha fun h0 => by
    have := h'.bwd.out_len; rw [h0] at this; simp only [List.length_nil] at this; omega
  rw [nuB_eq h.bwd.toLinkInv, nuB_eq h'.bwd.toLinkInv, n2]
  have := h.bwd.hr2; have := h'.bwd.hr1; have := n2 ▸ h'.bwd.hrn; have := mb.hd; have := ma.cnt
  split
  · exact Nat.zero_le _
  · rw [if_neg (by omega)]; omega   -- something is queued afterwards, so before as well

theorem d_progress {st : Sys} (ht : c.inTrim = 2) (h : SysInv c sab sba K Bd st) :
    (xchgS c st .d).a.outq.out.length = st.a.outq.out.length - 1 ∧ nuB (xchgS c st .d) ≤ nuB st - 1 := by
  obtain ⟨h', ma, mb⟩ := xchg_inv h .d trivial
  obtain ⟨eb, ea, j1⟩ := xchg_d_eq ht h
  obtain ⟨-, b2, b3⟩ := recv_fresh ht h.toJoined.symm
  obtain ⟨-, a2, a3⟩ := recv_fresh ht j1
  rw [← eb] at ea a2 a3 b2 b3
  rw [← ea] at a2 a3
  have la := out_hd_eq h h' ma
  refine ⟨?_, nuB_dec h h' ma mb b3 a2⟩
  by_cases hne : st.a.outq.out = []
  · have h0 : st.a.outq.out.length = 0 := by rw [hne]; rfl
    have := ma.hd; omega
  · have := a3 (b2 hne); omega

/-- `n` consecutive delivered exchanges -/
def tail (n : Nat) : List Ev := List.replicate n (Ev.xchg .d)

/-- events of a write-free continuation: exchanges of every fate (replays at most `K` old) and reads -/
def tailOk (K : Nat) : Ev → Bool
  | .xchg (.rp k) => decide (k ≤ K)
  | .xchg _ => true
  | .read _ _ => true
  | _ => false

def isD : Ev → Bool
  | .xchg .d => true
  | _ => false

theorem isD_iff {e : Ev} : isD e = true ↔ e = .xchg .d := by
  cases e with
  | xchg f => cases f <;> simp [isD]
  | _ => simp [isD]

theorem tail_all_tailOk (K n : Nat) : (tail n).all (tailOk K) = true := by simp [tail, tailOk]

theorem tail_count (n : Nat) : (tail n).countP isD = n := by simp [tail, List.countP_replicate, isD]

theorem tailOk_evOk {mtu : Nat} {ev : Ev} (h : tailOk K ev = true) : evOk mtu K Bd ev = true := by
  cases ev with
  | xchg f => cases f <;> exact h
  | read _ _ => rfl
  | _ => cases h

theorem step_adv {mtu : Nat} {st : Sys} (h : SysInv c sab sba K Bd st) (ev : Ev)
    (hev : tailOk K ev = true) : Adv 1 st.a (stepS c mtu st ev).a ∧ Adv 2 st.b (stepS c mtu st ev).b := by
  cases ev with
  | write _ _ => cases hev
  | inject _ _ _ => cases hev
  | fack _ _ => cases hev
  | read side n =>
    cases side
    · exact ⟨(readEnd_adv st.a n).mono (Nat.zero_le _), Adv.refl _⟩
    · exact ⟨Adv.refl _, (readEnd_adv st.b n).mono (Nat.zero_le _)⟩
  | xchg f => exact (xchg_inv h f (Fate.ok_of_evOk (tailOk_evOk (mtu := mtu) (Bd := Bd) hev))).2

theorem step_measure {mtu : Nat} (hm : 0 < mtu) (ht : c.inTrim = 2) {st : Sys}
    (h : SysInv c sab sba K Bd st) (ev : Ev) (hev : tailOk K ev = true) :
    (stepS c mtu st ev).a.outq.out.length ≤ st.a.outq.out.length - (if isD ev then 1 else 0) ∧
    nuB (stepS c mtu st ev) ≤ nuB st - (if isD ev then 1 else 0) := by
  by_cases hd : isD ev = true
  · obtain rfl := isD_iff.mp hd
    rw [if_pos hd]
    exact ⟨Nat.le_of_eq (d_progress ht h).1, (d_progress ht h).2⟩
  · obtain ⟨ma, mb⟩ := step_adv (mtu := mtu) h ev hev
    have h' := step_inv hm h ev (tailOk_evOk hev)
    rw [if_neg hd]
    exact ⟨by have := out_hd_eq h h' ma; have := ma.hd; omega, nuB_mono h h' ma mb⟩

theorem le_sub_trans {a b c n δ : Nat} (h1 : a ≤ b - δ) (h2 : c ≤ a - n) : c ≤ b - (n + δ) := by
  rw [Nat.add_comm, ← Nat.sub_sub]
  exact Nat.le_trans h2 (Nat.sub_le_sub_right h1 n)

/-- what a write-free continuation with `d` delivered exchanges achieves from `st` -/
structure Progress (c : Cfg) (sab sba K Bd : Nat) (st st' : Sys) (d : Nat) : Prop where
  inv : SysInv c sab sba K Bd st'
  aout : st'.a.outq.out.length ≤ st.a.outq.out.length - d
  nu : nuB st' ≤ nuB st - d
  aacc : st'.a.accR = st.a.accR
  bacc : st'.b.accR = st.b.accR

/-- By recursion over the schedule and not by `SkipRun.induct_total`: the bounds count the delivered exchanges of the
    schedule run so far, so they are no invariant of the state alone. -/
theorem lossy_tail_progress {mtu : Nat} (hm : 0 < mtu) (ht : c.inTrim = 2) :
    ∀ (evs : List Ev) (st : Sys), SysInv c sab sba K Bd st → evs.all (tailOk K) = true →
      Progress c sab sba K Bd st (runS c mtu st evs) (evs.countP isD)
  | [], _, h, _ => ⟨h, Nat.le_refl _, Nat.le_refl _, rfl, rfl⟩
  | e :: es, st, h, hall => by
    simp only [List.all_cons, Bool.and_eq_true] at hall
    obtain ⟨ma, mb⟩ := step_adv (mtu := mtu) h e hall.1
    obtain ⟨p1, p2⟩ := step_measure hm ht h e hall.1
    have q := lossy_tail_progress hm ht es _ (step_inv hm h e (tailOk_evOk hall.1)) hall.2
    rw [List.countP_cons]
    exact ⟨q.inv, le_sub_trans p1 q.aout, le_sub_trans p2 q.nu, q.aacc.trans ma.acc, q.bacc.trans mb.acc⟩

/-- both out-queues of `st'` are empty, nothing has been accepted since `st`, and each end has released what the
    other had accepted -/
structure Drained (st st' : Sys) : Prop where
  aout : st'.a.outq.out = []
  bout : st'.b.outq.out = []
  aacc : st'.a.acc = st.a.acc
  bacc : st'.b.acc = st.b.acc
  brel : st'.b.inq.rel = st.a.acc
  arel : st'.a.inq.rel = st.b.acc

theorem lossy_tail_drains {mtu : Nat} (hm : 0 < mtu) (ht : c.inTrim = 2) {st : Sys}
    (h : SysInv c sab sba K Bd st) {evs : List Ev} (hall : evs.all (tailOk K) = true)
    (hna : st.a.outq.out.length ≤ evs.countP isD) (hnb : st.b.outq.out.length + 1 ≤ evs.countP isD) :
    Drained st (runS c mtu st evs) := by
  have q := lossy_tail_progress hm ht evs st h hall
  have := q.aout; have := q.nu; have := nuB_le st
  have ha0 : (runS c mtu st evs).a.outq.out = [] := List.eq_nil_of_length_eq_zero (by omega)
  have hb0 : (runS c mtu st evs).b.outq.out = [] := nuB_zero (by omega)
  have ea := End.acc_congr q.aacc
  have eb := End.acc_congr q.bacc
  exact ⟨ha0, hb0, ea, eb, (q.inv.drained.1 ha0).trans ea, (q.inv.drained.2 hb0).trans eb⟩

end progress

end SA.Queue
