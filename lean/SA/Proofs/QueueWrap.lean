/-
  SA.Proofs.QueueWrap — the run that loses data with the ack-cache trimming the tree had before the
  repair (`OutQueue.cleanAckedChunks`: `q.acked = q.acked[0:MaxCachedChunks]`, fact value 0), proved by
  an inductive characterisation of the run, not by evaluation.

  Run: stop-and-wait rounds `write one byte at A; delivered exchange`, any starting sequence numbers.
  After `k ≤ 65536 + 128` rounds (`Ph`): A.out = [], A's cache `out.acked` is the first min(k,128) sequence
  numbers ever acknowledged (it stops changing at k = 128: every later ack is appended and cut off again), and B
  has released min(k,65536) chunks.  Up to round 65536 the chunk of round k is new to A's cache and goes through;
  from then on it carries the number (s + k - 65536) mod 2^16, one of the 128 cached ones: `NextChunk` →
  `cleanAckedChunks` removes it from `out` unsent, and the Write returns success.
-/
import SA.Proofs.Queue
namespace SA.Queue

/-- the source facts of the tree before the repair: the regenerated ones, except `outTrim = 0` -/
def Cfg.keepOldest : Cfg := { max := 128, outTrim := 0, inTrim := 2, wlo := 1, whi := 128, ackOff := 1 }

/-- `keepOldest` is the regenerated facts with `outTrim := 0`.  It is written out because the run below is proved for
    these numbers (`Ph` has 128 as a literal); this comparison fails to compile when a regenerated fact changes — the
    run itself would still stand. -/
theorem Cfg.gen_keepOldest : { Cfg.gen with outTrim := 0 } = Cfg.keepOldest := rfl

local notation "kc" => Cfg.keepOldest

/-- one stop-and-wait round: A writes one byte (one chunk at mtu 1), one delivered exchange -/
def round : List Ev := [Ev.write false [7], Ev.xchg .d]
def rounds (n : Nat) : List Ev := (List.replicate n round).flatten

theorem rounds_succ (n : Nat) : rounds (n + 1) = round ++ rounds n := by
  simp [rounds, List.replicate_succ]

theorem rounds_all_evOk (n : Nat) : (rounds n).all (evOk 1 0 1) = true := by
  rw [List.all_eq_true]
  intro e he
  obtain ⟨l, hl, hel⟩ := List.mem_flatten.mp he
  obtain ⟨_, rfl⟩ := List.mem_replicate.mp hl
  simp only [round, List.mem_cons, List.not_mem_nil, or_false] at hel
  rcases hel with rfl | rfl <;> decide

/-- B's out-queue in these runs: nothing queued, at most the one acknowledgement A keeps sending -/
theorem updateAcked_idle {c : Cfg} (hmax : 1 ≤ c.max) (o : OutQ) {v g : Nat} (hout : o.out = [])
    (hack : o.acked = [] ∨ o.acked = [v]) :
    ((o.updateAcked c v g).clean c).out = [] ∧ ((o.updateAcked c v g).clean c).acked = [v] := by
  have h1 : applyTrim c.outTrim c.max [v] = [v] := applyTrim_noop hmax
  rcases hack with h | h
  · rw [updateAcked_of_not_mem g (by simp [h])]
    simp only [clean_out, clean_acked, hout, h, cleanOut_nil, eraseFirstSeq_nil, List.nil_append, h1]
    exact ⟨trivial, trivial⟩
  · rw [updateAcked_of_mem g (by simp [h])]
    simp only [clean_out, clean_acked, hout, h, cleanOut_nil, h1]
    exact ⟨trivial, trivial⟩

/-- the state before a delivered exchange of a stop-and-wait run: one chunk queued at A, nothing at B -/
structure Pre (c : Cfg) (st : Sys) (v : Nat) (d : List Nat) : Prop where
  aout : st.a.outq.out = [⟨v, d⟩]
  alen : st.a.outq.acked.length ≤ c.max
  bout : st.b.outq.out = []
  backd : st.b.outq.acked = [] ∨ st.b.outq.acked = [ackOf c st.a.inq.next]

/-- the state `st'` after the delivered exchange from a state `Pre`, B having got `pkt` and answered `w` -/
structure Post (c : Cfg) (st st' : Sys) (pkt : Option Pkt) (w : Nat) : Prop where
  aout : st'.a.outq.out = []
  aack : st'.a.outq.acked = applyTrim c.outTrim c.max (st.a.outq.acked ++ [w])
  anext : st'.a.outq.next = st.a.outq.next
  ainq : st'.a.inq = st.a.inq
  aacc : st'.a.accR = st.a.accR
  binq : st'.b.inq = (st.b.inq.append c pkt).1
  bout : st'.b.outq.out = []
  backd : st'.b.outq.acked = [ackOf c st.a.inq.next]

/-- what B, whose in-queue is `i`, gets and acknowledges in a delivered exchange when A has the one chunk `⟨v, d⟩`
    queued and `acked` cached: the chunk unless its number is cached (`NextChunk` → `cleanAckedChunks` then drops it
    unsent), and an acknowledgement `w` that is new to A's cache and names the chunk if it was sent -/
structure Sent (c : Cfg) (acked : List Nat) (v : Nat) (d : List Nat) (i : InQ) (pkt : Option Pkt) (w : Nat) :
    Prop where
  pkt_eq : pkt = if v ∈ acked then none else some ⟨v, d⟩
  ok : (i.append c pkt).2 = true
  w_eq : w = ackOf c (i.append c pkt).1.next
  new : w ∉ acked
  sent : v ∉ acked → w = v

/-- the exchange: B appends what it gets; its acknowledgement empties A's `out` and is cached -/
theorem xchg_round {c : Cfg} (hmax : 1 ≤ c.max) {st : Sys} {v : Nat} {d : List Nat} (h : Pre c st v d)
    {pkt : Option Pkt} {w : Nat} (t : Sent c st.a.outq.acked v d st.b.inq pkt w) :
    Post c st (xchgS c st .d) pkt w := by
  -- the query
  have hq1 : (st.a.outq.clean c).out = if v ∈ st.a.outq.acked then [] else [⟨v, d⟩] := by
    rw [clean_out, h.aout, cleanOut_single]
  have hq2 : (st.a.outq.clean c).acked = st.a.outq.acked := (clean_acked ..).trans (applyTrim_noop h.alen)
  have hqp : (mkQuery c st.a).2.pkt = pkt := by
    simp only [mkQuery_clean, hq1, t.pkt_eq]; split <;> rfl
  -- B
  obtain ⟨b1, b2⟩ := updateAcked_idle (c := c) hmax st.b.outq (v := (mkQuery c st.a).2.ack)
    (g := (mkQuery c st.a).2.gAck) h.bout h.backd
  have hsv := serve_ok (b := st.b) (q := (mkQuery c st.a).2) (hqp ▸ t.ok)
  rw [hqp] at hsv
  simp only [xchgS]
  rw [hsv]
  simp only [clientRecv, b1, List.head?_nil, InQ.append_none, ← t.w_eq]
  -- A handles the acknowledgement
  simp only [mkQuery_clean]
  rw [updateAcked_of_not_mem _ (hq2 ▸ t.new)]
  refine ⟨?_, ?_, rfl, rfl, rfl, rfl, b1, b2⟩
  · show eraseFirstSeq w (cleanOut (st.a.outq.clean c).acked (st.a.outq.clean c).out) = []
    rw [hq1, hq2]
    by_cases hm : v ∈ st.a.outq.acked
    · rw [if_pos hm, cleanOut_nil]; rfl
    · rw [if_neg hm, cleanOut_single, if_neg hm, t.sent hm]; exact eraseFirstSeq_head _ rfl
  · show applyTrim c.outTrim c.max ((st.a.outq.clean c).acked ++ [w]) = _
    rw [hq2]

/-- a cache that keeps its oldest `max` entries: one more entry after the first `min k max` values of `f` -/
theorem keepOldest_snoc (f : Nat → Nat) (max k x : Nat) (hx : k < max → x = f k) :
    applyTrim 0 max ((List.range' 0 (min k max)).map f ++ [x]) = (List.range' 0 (min (k + 1) max)).map f := by
  rw [applyTrim_zero]
  by_cases h : max ≤ k
  · rw [Nat.min_eq_right h, Nat.min_eq_right (by omega), List.take_append_of_le_length (by simp),
      List.take_of_length_le (by simp)]
  · rw [Nat.min_eq_left (by omega), Nat.min_eq_left (by omega), List.take_of_length_le (by simp; omega),
      List.range'_concat, List.map_append, hx (by omega)]
    simp

/-- `n` one-byte payloads, newest first (`relR`, `accR`), are `n` bytes -/
theorem length_flatten_reverse_replicate (n x : Nat) : ((List.replicate n [x]).reverse.flatten).length = n := by
  induction n with
  | zero => rfl
  | succ n _ => simp [List.replicate_succ]

/-- a receiver that has released `m` chunks `[7]` in order and parks nothing -/
structure Rcv (s m : Nat) (i : InQ) : Prop where
  next : i.next = seqOf s m
  cnt : i.cnt = m
  fut : i.future = []
  ack : InAck kc s i
  rel : i.relR = List.replicate m [7]

theorem Rcv.step {s m : Nat} {i : InQ} (h : Rcv s m i) :
    (i.append kc (some ⟨seqOf s m, [7]⟩)).2 = true ∧ Rcv s (m + 1) (i.append kc (some ⟨seqOf s m, [7]⟩)).1 ∧
    ackOf kc (i.append kc (some ⟨seqOf s m, [7]⟩)).1.next = seqOf s m := by
  have hnn := h.ack.not_next (show Cfg.keepOldest.max < MOD by decide)
  rw [h.cnt] at hnn
  have happ := InQ.append_next_nil (c := kc) (p := ⟨seqOf s m, [7]⟩) hnn h.next.symm h.fut
  have hnext : (i.append kc (some ⟨seqOf s m, [7]⟩)).1.next = seqOf s (m + 1) := by
    rw [happ]
    show (i.next + 1) % MOD = _
    rw [h.next, seqOf_succ]
  refine ⟨by rw [happ], ⟨hnext, ?_, ?_, ?_, ?_⟩, by rw [hnext, ackOf_seqOf rfl, ackv_succ]⟩
  · rw [happ]; exact congrArg (· + 1) h.cnt
  · rw [happ]; exact h.fut
  · exact h.ack.append rfl (by rw [h.next, h.cnt]) h.fut _ (by rw [happ]; exact h.fut)
  · rw [happ]
    show [7] :: i.relR = _
    rw [h.rel, List.replicate_succ]

theorem mem_first {s k v : Nat} : v ∈ (List.range' 0 (min k 128)).map (seqOf s) ↔ ∃ j, j < k ∧ j < 128 ∧ v = seqOf s j := by
  simp only [List.mem_map, List.mem_range'_1]
  exact ⟨fun ⟨j, hj, e⟩ => ⟨j, by omega, by omega, e.symm⟩, fun ⟨j, h1, h2, e⟩ => ⟨j, by omega, e.symm⟩⟩

/-- round `k`, A's cache being the first `min k 128` numbers and B having released the chunks of the first
    `min k 65536` rounds: what B gets and acknowledges -/
theorem round_sent {s k : Nat} {i : InQ} (hB : Rcv s (min k MOD) i) (hk : k < MOD + 128) :
    ∃ pkt w, Sent kc ((List.range' 0 (min k 128)).map (seqOf s)) (seqOf s k) [7] i pkt w ∧
      (k < 128 → w = seqOf s k) ∧ Rcv s (min (k + 1) MOD) (i.append kc pkt).1 := by
  by_cases hlt : k < MOD
  · -- the chunk is new to A's cache: sent, released in order, acknowledged
    rw [Nat.min_eq_left (by omega)] at hB
    have hnew : seqOf s k ∉ (List.range' 0 (min k 128)).map (seqOf s) := fun hin => by
      obtain ⟨j, h1, h2, e⟩ := mem_first.mp hin
      have := seqOf_inj e (by omega) (by omega); omega
    obtain ⟨r1, r2, r3⟩ := hB.step
    exact ⟨some ⟨seqOf s k, [7]⟩, seqOf s k, ⟨(if_neg hnew).symm, r1, r3.symm, hnew, fun _ => rfl⟩, fun _ => rfl,
      by rw [Nat.min_eq_left (by omega)]; exact r2⟩
  · -- the chunk's number is cached: dropped unsent, B repeats its last acknowledgement
    rw [Nat.min_eq_right (by omega)] at hB
    have hold : seqOf s k ∈ (List.range' 0 (min k 128)).map (seqOf s) :=
      mem_first.mpr ⟨k - MOD, by omega, by omega, seqOf_wrap (by omega)⟩
    have hackn : ackOf kc i.next ∉ (List.range' 0 (min k 128)).map (seqOf s) := fun hin => by
      obtain ⟨j, h1, h2, e⟩ := mem_first.mp hin
      rw [hB.next, ackOf_seqOf rfl] at e
      have := ackv_eq_seqOf e (by omega) (by omega); omega
    exact ⟨none, ackOf kc i.next, ⟨(if_pos hold).symm, rfl, rfl, hackn, fun hn => absurd hold hn⟩, fun _ => by omega,
      by rw [Nat.min_eq_right (by omega)]; exact hB⟩

/-- the state after `k ≤ 65536 + 128` rounds -/
structure Ph (s sba k : Nat) (st : Sys) : Prop where
  anext : st.a.outq.next = seqOf s k
  aout : st.a.outq.out = []
  /-- A's ack cache: the first min(k,128) numbers ever acknowledged -/
  aack : st.a.outq.acked = (List.range' 0 (min k 128)).map (seqOf s)
  ainext : st.a.inq.next = sba
  aacc : st.a.accR = List.replicate k [7]
  /-- B has released the chunks of the first 65536 rounds and none after -/
  b : Rcv s (min k MOD) st.b.inq
  bout : st.b.outq.out = []
  backd : st.b.outq.acked = [] ∨ st.b.outq.acked = [ackOf kc sba]

/-- one round = `runS` over `round` -/
def oneRound (st : Sys) : Sys := xchgS kc (stepS kc 1 st (.write false [7])) .d

theorem runS_round (st : Sys) (l : List Ev) : runS kc 1 st (round ++ l) = runS kc 1 (oneRound st) l := rfl

theorem ph_round {s sba k : Nat} {st : Sys} (h : Ph s sba k st) (hk : k < MOD + 128) :
    Ph s sba (k + 1) (oneRound st) := by
  -- the write: one chunk, number `seqOf s k`
  have hw : stepS kc 1 st (.write false [7]) =
      { st with a := { st.a with outq := st.a.outq.addChunk [7], accR := [7] :: st.a.accR, pend := some 1 } } := by
    simp only [stepS]; rw [writeEnd_single h.aout (by decide) (by decide)]; rfl
  have hpre : Pre kc (stepS kc 1 st (.write false [7])) (seqOf s k) [7] := by
    rw [hw]
    refine ⟨?_, ?_, h.bout, h.ainext ▸ h.backd⟩
    · show st.a.outq.out ++ [⟨st.a.outq.next, [7]⟩] = _
      rw [h.aout, h.anext]; rfl
    · show st.a.outq.acked.length ≤ 128
      rw [h.aack]; simp; omega
  have hack : (stepS kc 1 st (.write false [7])).a.outq.acked = st.a.outq.acked := by rw [hw]; rfl
  have hb : (stepS kc 1 st (.write false [7])).b = st.b := by rw [hw]
  obtain ⟨pkt, w, t, hwa, hb'⟩ := round_sent h.b hk
  rw [← h.aack, ← hack, ← hb] at t
  have x := xchg_round (c := kc) (by decide) hpre t
  unfold oneRound
  exact {
    anext := by
      rw [x.anext, hw]
      show (st.a.outq.next + 1) % MOD = _
      rw [h.anext, seqOf_succ]
    aout := x.aout
    aack := by rw [x.aack, hack, h.aack]; exact keepOldest_snoc _ 128 _ _ hwa
    ainext := x.ainq.symm ▸ hw ▸ h.ainext
    aacc := by
      rw [x.aacc, hw]
      show [7] :: st.a.accR = _
      rw [h.aacc, List.replicate_succ]
    b := by rw [x.binq, hb]; exact hb'
    bout := x.bout
    backd := by
      rw [x.backd, hw]
      exact Or.inr (by show [ackOf kc st.a.inq.next] = _; rw [h.ainext]) }

theorem ph_run {s sba : Nat} : ∀ (n k : Nat) (st : Sys), Ph s sba k st → k + n ≤ MOD + 128 →
    Ph s sba (k + n) (runS kc 1 st (rounds n))
  | 0, _, _, h, _ => h
  | n + 1, k, st, h, hk => by
    rw [rounds_succ, runS_round, ← Nat.add_assoc, Nat.add_right_comm]
    exact ph_run n (k + 1) (oneRound st) (ph_round h (by omega)) (by omega)

theorem ph_init {s sba : Nat} (hs : s < MOD) : Ph s sba 0 (init s sba) :=
  ⟨(seqOf_zero hs).symm, rfl, rfl, rfl, rfl, ⟨(seqOf_zero hs).symm, rfl, rfl, by simp [InAck, init], rfl⟩, rfl, Or.inl rfl⟩

theorem wrap_state {s sba : Nat} (hs : s < MOD) (n : Nat) (hn : n ≤ MOD + 128) :
    Ph s sba n (runS kc 1 (init s sba) (rounds n)) := by
  have := ph_run n 0 (init s sba) (ph_init hs) (by omega)
  rwa [Nat.zero_add] at this

end SA.Queue
