/-
  SA.Proofs.DnsHandshake — the phases of the client's parameter negotiation (SA.Model.DnsHandshake), for C11: a bound
  on the probes each phase makes, the decreasing measure of the repaired fragment size search, and the inversions
  that lead from a selected parameter back to the probe that justified it; then `handshake` itself: the bounds added
  up (`handshake_bounded`) and the phase values read off a successful result (`handshake_ok_phases`).

  Every phase returns a pair (value, probes made).  A lemma about a phase as a whole takes the equation `phase … = r`
  and speaks of `r.1` and `r.2`: that equation is what a case analysis of the caller (`fun_induction`, `fun_cases`,
  `generalize h : … = r`) has at hand.  The inductions over the loops inside a phase (`typeRound`, `typeRoundsLoop`,
  `downLoop`, `fragLoop`) speak of the call itself.
-/
import SA.Model.DnsHandshake
namespace SA.DnsHandshake

variable {O : Oracle} {cfg : Cfg} {st : St}

/-- one more phase: its probes are appended, its budget is added -/
theorem length_append_le {α : Type} {t t' : List α} {a b : Nat} (h : t.length ≤ a) (h' : t'.length ≤ b) :
    (t ++ t').length ≤ a + b :=
  List.length_append ▸ Nat.add_le_add h h'

/-! ### retry, and a verdict on what it returns: the shape of every single-probe phase -/

theorem retry_len {n : Nat} {pr : Probe} {cont : Out → Bool} {r} (h : retry n O pr cont = r) : r.2.length ≤ n := by
  subst h; unfold retry
  split   -- no tries
  · exact Nat.zero_le _
  · split   -- the request cannot be encoded: no query is made
    · exact Nat.zero_le _
    · split   -- every try goes round again: `n` probes; or the first one returns
      · exact Nat.le_of_eq List.length_replicate
      · exact Nat.pos_of_ne_zero ‹_›

theorem retry_some {n : Nat} {pr : Probe} {cont : Out → Bool} {o : Out} {tr : List Probe}
    (h : retry n O pr cont = (some o, tr)) : o = O pr ∧ cont (O pr) = false := by
  unfold retry at h
  split at h   -- no tries: nothing is returned
  · cases h
  · split at h   -- the request cannot be encoded (`O pr = .x`), or an exchange was made
    · rename_i hx
      rw [← hx] at h
      split at h <;> cases h
      exact ⟨rfl, Bool.eq_false_iff.2 ‹_›⟩
    · split at h <;> cases h
      exact ⟨rfl, Bool.eq_false_iff.2 ‹_›⟩

section verdict
variable {α : Type} {n : Nat} {pr : Probe} {cont : Out → Bool} {f : Out → α} {g : α} {r : α × List Probe}

theorem verdict_len (h : (match retry n O pr cont with | (some o, tr) => (f o, tr) | (none, tr) => (g, tr)) = r) :
    r.2.length ≤ n := by
  subst h
  generalize hr : retry _ _ _ _ = r
  rcases r with ⟨_ | _, _⟩ <;> exact retry_len hr

theorem verdict_cases (h : (match retry n O pr cont with | (some o, tr) => (f o, tr) | (none, tr) => (g, tr)) = r) :
    r.1 = g ∨ r.1 = f (O pr) ∧ cont (O pr) = false := by
  subst h
  generalize hr : retry _ _ _ _ = r
  rcases r with ⟨_ | _, _⟩
  · exact .inl rfl
  · exact .inr ⟨(retry_some hr).1 ▸ rfl, (retry_some hr).2⟩

/- the same with the arms in the other order (as `switchPhase`, `upTest`, `downTest`, `fragProbe` have them), which is
   another `match` to Lean -/
theorem verdict_swap (x : Option Out × List Probe) :
    (match x with | (some o, tr) => (f o, tr) | (none, tr) => (g, tr)) =
      match x with | (none, tr) => (g, tr) | (some o, tr) => (f o, tr) := by
  rcases x with ⟨_ | _, _⟩ <;> rfl

theorem verdict_len_swapped
    (h : (match retry n O pr cont with | (none, tr) => (g, tr) | (some o, tr) => (f o, tr)) = r) : r.2.length ≤ n :=
  verdict_len ((verdict_swap _).trans h)

theorem verdict_cases_swapped
    (h : (match retry n O pr cont with | (none, tr) => (g, tr) | (some o, tr) => (f o, tr)) = r) :
    r.1 = g ∨ r.1 = f (O pr) ∧ cont (O pr) = false :=
  verdict_cases ((verdict_swap _).trans h)

end verdict

/-! ### single-probe phases: each unfolds to a verdict on `retry` -/

theorem versionPhase_len {r} (h : versionPhase O cfg st = r) : r.2.length ≤ cfg.versionTries := verdict_len h
theorem ednsPhase_len {r} (h : ednsPhase O cfg st = r) : r.2.length ≤ cfg.ednsTries := verdict_len h
theorem setUpPhase_len {c : Codec} {r} (h : setUpPhase O cfg st c = r) : r.2.length ≤ cfg.setUpTries := verdict_len h
theorem setDownPhase_len {d : Codec} {r} (h : setDownPhase O cfg st d = r) : r.2.length ≤ cfg.setDownTries :=
  verdict_len h
theorem lazyPhase_len {d : Codec} {r} (h : lazyPhase O cfg st d = r) : r.2.length ≤ cfg.lazyTries := verdict_len h
theorem switchPhase_len {f : Nat} {r} (h : switchPhase O cfg st f = r) : r.2.length ≤ cfg.switchTries :=
  verdict_len_swapped h
theorem upTest_len {c : Codec} {i : Nat} {r} (h : upTest O cfg st c i = r) : r.2.length ≤ cfg.upTestTries :=
  verdict_len_swapped h
theorem downTest_len {d : Codec} {r} (h : downTest O cfg st d = r) : r.2.length ≤ cfg.downTestTries :=
  verdict_len_swapped h
theorem fragProbe_len {f : Nat} {r} (h : fragProbe O cfg st f = r) : r.2.length ≤ cfg.fragTries :=
  verdict_len_swapped h

theorem versionPhase_sound {r} (h : versionPhase O cfg st = r) (hr : r.1 = true) : O (st.probe .v) = .k := by
  rcases verdict_cases h with h | ⟨-, h⟩
  · cases hr.symm.trans h
  · exact bne_eq_false_iff_eq.1 h

/-- the three phases that tell a clean ok (`a`) from two kinds of failure (`b`, `c`) and from giving up (`g`): the verdict
    is `a` only on a clean ok -/
theorem ok_of_verdict {α : Type} {n : Nat} {pr : Probe} {cont : Out → Bool} {p : Out → Prop} [DecidablePred p]
    {a b c g : α} {r : α × List Probe}
    (h : (match retry n O pr cont with
      | (none, tr) => (g, tr)
      | (some o, tr) => (if o = .k then a else if p o then b else c, tr)) = r)
    (hr : r.1 = a) (hg : a ≠ g) (hb : a ≠ b) (hc : a ≠ c) : O pr = .k := by
  rcases verdict_cases_swapped h with h | ⟨h, -⟩
  · exact absurd (hr.symm.trans h) hg
  · rw [hr] at h
    split at h
    · assumption
    · split at h
      · exact absurd h hb
      · exact absurd h hc

theorem switchPhase_set {f : Nat} {r} (h : switchPhase O cfg st f = r) (hr : r.1 = .set) :
    O (st.probe (.oFrag f)) = .k :=
  ok_of_verdict h hr nofun nofun nofun

theorem upTest_sound {c : Codec} {i : Nat} {r} (h : upTest O cfg st c i = r) (hr : r.1 = .ok) :
    O (st.probe (.z c i)) = .k :=
  ok_of_verdict h hr nofun nofun nofun

theorem fragProbe_sound {f : Nat} {r} (h : fragProbe O cfg st f = r) (hr : r.1 = .ok) : O (st.probe (.r f)) = .k :=
  ok_of_verdict h hr nofun nofun nofun

theorem downTest_sound (hm : cfg.downMismatchIsError = true) {d : Codec} {r} (h : downTest O cfg st d = r)
    (hr : r.1 = true) : O (st.probe (.y d)) = .k := by
  rcases verdict_cases_swapped h with h | ⟨h, -⟩
  · cases hr.symm.trans h
  · simpa [hm] using hr.symm.trans h

/-- a commit that does not fall back to Base32 kept the requested codec, on a clean ok -/
theorem kept_of_ne_b32 {o : Out} {c c' : Codec} (h : c' = if o = .k then c else .b32) (hne : c' ≠ .b32) :
    c' = c ∧ o = .k := by
  split at h
  · exact ⟨h, ‹_›⟩
  · exact absurd h hne

theorem setUpPhase_sound {c : Codec} {r} (h : setUpPhase O cfg st c = r) (hne : r.1 ≠ .b32) :
    r.1 = c ∧ O ({ st with up := some c }.probe (.oUp c)) = .k :=
  (verdict_cases h).elim (absurd · hne) fun h => kept_of_ne_b32 h.1 hne

theorem setDownPhase_sound {d : Codec} {r} (h : setDownPhase O cfg st d = r) (hne : r.1 ≠ .b32) :
    r.1 = d ∧ O ({ st with down := some d }.probe (.oDown d false)) = .k :=
  (verdict_cases h).elim (absurd · hne) fun h => kept_of_ne_b32 h.1 hne

/-! ### AutoDetectQueryType: at most one probe per type and pass; the type that comes out passed its probe -/

theorem typeRound_len (O : Oracle) (cfg : Cfg) (l : List QT) (h : Option QT) :
    (typeRound O cfg l h).2.length ≤ l.length := by
  fun_induction typeRound O cfg l h with
  | case1 => exact Nat.zero_le _
  | case2 | case3 => exact Nat.succ_le_succ (Nat.zero_le _)
  | case4 _ _ _ _ _ _ ih | case5 _ _ _ _ _ _ ih => exact Nat.succ_le_succ ih

theorem typeRoundsLoop_len (O : Oracle) (cfg : Cfg) (n : Nat) (h : Option QT) :
    (typeRoundsLoop O cfg n h).2.length ≤ n * cfg.typeOrder.length := by
  fun_induction typeRoundsLoop O cfg n h with
  | case1 => simp
  | case2 n h r => exact Nat.le_trans (typeRound_len O cfg cfg.typeOrder h) (Nat.le_mul_of_pos_left _ (Nat.succ_pos n))
  | case3 n h r _ r2 ih =>
    rw [Nat.succ_mul, Nat.add_comm]
    exact length_append_le (typeRound_len O cfg cfg.typeOrder h) ih

theorem typeDetect_len {r} (h : typeDetect O cfg = r) : r.2.length ≤ cfg.typeRounds * cfg.typeOrder.length :=
  h ▸ typeRoundsLoop_len O cfg _ _

theorem typeRound_sound {l : List QT} {h : Option QT} {q : QT}
    (hr : (typeRound O cfg l h).1 = some q) : h = some q ∨ O (typeProbe cfg q) = .k := by
  fun_induction typeRound O cfg l h with
  | case1 => exact .inl hr
  | case2 _ _ _ hk | case3 _ _ _ hk => cases hr; exact .inr hk
  | case4 _ _ _ _ _ _ ih | case5 _ _ _ _ _ _ ih => exact ih hr

theorem typeRoundsLoop_sound {n : Nat} {h : Option QT} {q : QT}
    (hr : (typeRoundsLoop O cfg n h).1 = some q) : h = some q ∨ O (typeProbe cfg q) = .k := by
  fun_induction typeRoundsLoop O cfg n h with
  | case1 => exact .inl hr
  | case2 => exact typeRound_sound hr
  | case3 _ _ _ _ _ ih => exact (ih hr).elim typeRound_sound .inr

theorem typeDetect_sound {r} {q : QT} (h : typeDetect O cfg = r) (hr : r.1 = some q) : O (typeProbe cfg q) = .k := by
  subst h
  exact (typeRoundsLoop_sound hr).resolve_left nofun

theorem upPatterns_len {c : Codec} {l : List Nat} {r} (h : upPatterns O cfg st c l = r) :
    r.2.length ≤ cfg.upTestTries * l.length := by
  subst h
  fun_induction upPatterns O cfg st c l with
  | case1 => exact Nat.zero_le _
  | case2 i rest tr he r ih =>
    rw [List.length_cons, Nat.mul_succ, Nat.add_comm]
    exact length_append_le (upTest_len he) ih
  | case3 i rest x tr _ he => exact Nat.le_trans (upTest_len he) (Nat.le_mul_of_pos_right _ (Nat.succ_pos _))

theorem upPatterns_sound {c : Codec} {l : List Nat} {r} (h : upPatterns O cfg st c l = r) (hr : r.1 = .ok) :
    ∀ i ∈ l, O (st.probe (.z c i)) = .k := by
  subst h
  fun_induction upPatterns O cfg st c l with
  | case1 => nofun
  | case2 i rest tr he r ih =>
    intro j hj
    rcases List.mem_cons.1 hj with rfl | hj
    · exact upTest_sound he rfl
    · exact ih hr j hj
  | case3 i rest x tr hx he => exact (hx hr).elim

/-- Σ over the codecs tried of (patterns × retries) -/
def upBudget (cfg : Cfg) : List Codec → Nat
  | [] => 0
  | c :: rest => cfg.upTestTries * cfg.patternCount c + upBudget cfg rest

theorem upDetect_len {l : List Codec} {r} (h : upDetect O cfg st l = r) : r.2.length ≤ upBudget cfg l := by
  subst h
  fun_induction upDetect O cfg st l with
  | case1 => exact Nat.zero_le _
  | case2 c rest tr he | case3 c rest tr he =>
    have := upPatterns_len he
    rw [List.length_range] at this
    exact Nat.le_trans this (Nat.le_add_right _ _)
  | case4 c rest tr he r ih =>
    have := upPatterns_len he
    rw [List.length_range] at this
    exact length_append_le this ih

/-- a codec other than Base32 is only selected after all of its patterns came back unchanged -/
theorem upDetect_sound {l : List Codec} {r} (h : upDetect O cfg st l = r) (hne : r.1 ≠ .b32) :
    ∀ i, i < cfg.patternCount r.1 → O (st.probe (.z r.1 i)) = .k := by
  subst h
  fun_induction upDetect O cfg st l with
  | case1 | case3 => exact absurd rfl hne
  | case2 c rest tr he => exact fun i hi => upPatterns_sound he rfl i (List.mem_range.2 hi)
  | case4 c rest tr he r ih => exact ih hne

/-- detection and commit together: an upstream codec other than Base32 is in force only after all of its patterns
    came back unchanged and the server acknowledged the switch -/
theorem up_sound {l : List Codec} {r0 r} (h0 : upDetect O cfg st l = r0) (h : setUpPhase O cfg st r0.1 = r)
    (hne : r.1 ≠ .b32) :
    (∀ i, i < cfg.patternCount r.1 → O (st.probe (.z r.1 i)) = .k) ∧
      O ({ st with up := some r.1 }.probe (.oUp r.1)) = .k := by
  obtain ⟨hc, hk⟩ := setUpPhase_sound h hne
  rw [hc] at hne ⊢
  exact ⟨upDetect_sound h0 hne, hk⟩

theorem downLoop_len {l : List Codec} {a : Codec} {r} (h : downLoop O cfg st l a = r) :
    r.2.length ≤ cfg.downTestTries * l.length := by
  subst h
  fun_induction downLoop O cfg st l a with
  | case1 => exact Nat.zero_le _
  | case2 d rest a tr he r ih | case3 rest a tr r he ih =>
    rw [List.length_cons, Nat.mul_succ, Nat.add_comm]
    exact length_append_le (downTest_len he) ih
  | case4 d rest a tr he => exact Nat.le_trans (downTest_len he) (Nat.le_mul_of_pos_right _ (Nat.succ_pos _))

theorem downLoop_sound (l : List Codec) (a : Codec) :
    (downLoop O cfg st l a).1 = a ∨ (downTest O cfg st (downLoop O cfg st l a).1).1 = true := by
  fun_induction downLoop O cfg st l a with
  | case1 | case4 => exact .inl rfl
  | case2 d rest a tr he r ih => exact .inr (ih.elim (fun h => by rw [show r.1 = d from h, he]) id)
  | case3 rest a tr r he ih => exact ih

theorem downDetect_len {r} (h : downDetect O cfg st = r) :
    r.2.length ≤ cfg.downTestTries * cfg.downOrder.length + cfg.downTestTries := by
  subst h
  fun_cases downDetect O cfg st with
  | case1 => exact Nat.zero_le _
  | case2 _ r _ t | case3 _ r _ t => exact length_append_le (downLoop_len rfl) (downTest_len rfl)
  | case4 _ r => exact Nat.le_trans (downLoop_len rfl) (Nat.le_add_right _ _)

/-- repaired shape: a downstream codec other than Base32 was either forced by the record type or passed
    its test in the state it will be used in -/
theorem downDetect_sound (hr : cfg.rawOnSuccess = true) (ha : cfg.downAlwaysAssigned = true)
    (hm : cfg.downMismatchIsError = true) {r} {d : Codec} (h : downDetect O cfg st = r) (hd : r.1 = some d)
    (hq : st.q ∉ cfg.downRawTypes) (hne : d ≠ .b32) : O (st.probe (.y d)) = .k := by
  subst h
  -- whichever of the two candidates is returned, it passed its test: the loop's, since it is not the start value
  suffices (downTest O cfg st d).1 = true from downTest_sound hm rfl this
  have hl (h : (downLoop O cfg st cfg.downOrder .b32).1 = d) : (downTest O cfg st d).1 = true :=
    h ▸ (downLoop_sound _ _).resolve_left (h ▸ hne)
  revert hd
  fun_cases downDetect O cfg st with
  | case1 h => exact absurd h hq
  | case2 _ r _ t =>
    intro hd
    have hd := Option.some.inj hd
    split at hd
    · rename_i hraw   -- Raw was chosen: its test came out as the polarity fact says
      exact hd ▸ hraw.trans hr
    · exact hl hd
  | case3 _ _ _ _ h => exact absurd ha h
  | case4 => exact fun hd => hl (Option.some.inj hd)

/-- detection and commit together, repaired shape -/
theorem down_sound (hr : cfg.rawOnSuccess = true) (ha : cfg.downAlwaysAssigned = true)
    (hm : cfg.downMismatchIsError = true) {r0 r} {d0 : Codec} (h0 : downDetect O cfg st = r0) (hd0 : r0.1 = some d0)
    (h : setDownPhase O cfg st d0 = r) (hq : st.q ∉ cfg.downRawTypes) (hne : r.1 ≠ .b32) :
    O (st.probe (.y r.1)) = .k ∧ O ({ st with down := some r.1 }.probe (.oDown r.1 false)) = .k := by
  obtain ⟨hc, hk⟩ := setDownPhase_sound h hne
  rw [hc] at hne ⊢
  exact ⟨downDetect_sound hr ha hm h0 hd0 hq hne, hk⟩

/-! ### fragment size search: decreasing measure -/

/-- the shapes the repaired loop has -/
structure Halving (cfg : Cfg) : Prop where
  stops : cfg.fragStopsAtZero = true
  shift : 1 ≤ cfg.fragShift

/-- **the decreasing measure**: every round at least halves the range, successful probe or not -/
theorem fragStep_range (hc : Halving cfg) (s : FS) (ok : Bool) : (fragStep cfg s ok).range ≤ s.range / 2 := by
  have key : ∀ x, x ≤ s.range → x >>> cfg.fragShift ≤ s.range / 2 := fun x hx => by
    rw [Nat.shiftRight_eq_div_pow]
    exact Nat.le_trans (Nat.div_le_div_left (Nat.pow_le_pow_right (by decide) hc.shift : 2 ^ 1 ≤ _) (by decide))
      (Nat.div_le_div_right hx)
  unfold fragStep
  dsimp only
  generalize (if ok = true then s.proposed else s.max) = m
  split <;> exact key _ (by split <;> omega)

theorem fragStep_max (s : FS) (ok : Bool) : (fragStep cfg s ok).max = if ok then s.proposed else s.max := by
  unfold fragStep
  dsimp only
  generalize (if ok = true then s.proposed else s.max) = m
  split <;> rfl

theorem fragSearch_halving (hh : cfg.fragHalvesEveryRound = true) :
    fragSearch O cfg st = fragLoop O cfg st (fragFuel cfg) (FS.init cfg) := if_pos hh

theorem fragCont_range_pos (hc : Halving cfg) {s : FS} (h : fragCont cfg s = true) : 0 < s.range := by
  simp only [fragCont, hc.stops, Bool.not_true, Bool.false_or, Bool.and_eq_true, decide_eq_true_eq] at h
  exact h.1

theorem fragLoop_bounded (hc : Halving cfg) (fuel : Nat) (s : FS) :
    ∀ k, s.range < 2 ^ k → k ≤ fuel →
      (fragLoop O cfg st fuel s).1 ≠ .outOfFuel ∧ (fragLoop O cfg st fuel s).2.length ≤ cfg.fragTries * k := by
  -- a round is only made with a positive range, below 2^(k+1), and leaves one below 2^k
  have hstep {s : FS} {k} (h : fragCont cfg s = true) (hs : s.range < 2 ^ k) (ok) :
      ∃ k', k = k' + 1 ∧ (fragStep cfg s ok).range < 2 ^ k' := by
    have := fragCont_range_pos hc h
    have := fragStep_range hc s ok
    cases k with
    | zero => omega
    | succ k' => exact ⟨k', rfl, by rw [Nat.pow_succ] at hs; omega⟩
  fun_induction fragLoop O cfg st fuel s with
  | case1 s h => intro k hs hk; obtain ⟨k', rfl, -⟩ := hstep h hs true; omega
  | case2 | case6 => exact fun _ _ _ => ⟨nofun, Nat.zero_le _⟩
  | case3 fuel s h tr he =>
    intro k hs hk
    obtain ⟨k', rfl, -⟩ := hstep h hs true
    exact ⟨nofun, Nat.le_trans (fragProbe_len he) (Nat.le_mul_of_pos_right _ (Nat.succ_pos _))⟩
  | case4 fuel s h tr he r ih | case5 fuel s h tr he r ih =>
    intro k hs hk
    obtain ⟨k', rfl, hs'⟩ := hstep h hs _
    have := ih k' hs' (by omega)
    exact ⟨this.1, by rw [Nat.mul_succ, Nat.add_comm]; exact length_append_le (fragProbe_len he) this.2⟩

/-- invariant of the search: `max` is 0 or a size whose probe passed -/
theorem fragLoop_max {fuel : Nat} {s s' : FS} (hinv : s.max = 0 ∨ O (st.probe (.r s.max)) = .k)
    (h : (fragLoop O cfg st fuel s).1 = .done s') : s'.max = 0 ∨ O (st.probe (.r s'.max)) = .k := by
  fun_induction fragLoop O cfg st fuel s with
  | case1 | case3 => cases h
  | case2 | case6 => cases h; exact hinv
  | case4 fuel s _ tr he r ih => exact ih (by rw [fragStep_max]; exact .inr (fragProbe_sound he rfl)) h
  | case5 fuel s _ tr he r ih => exact ih (by rw [fragStep_max]; exact hinv) h

/-! ### Handshake: the phases in sequence.  `handshake_bounded` adds their budgets up; `handshake_ok_phases` reads the
    value of every phase off a successful result. -/

/-- bound on the queries of a whole handshake, given a bound F on the fragment search -/
def hsBound (cfg : Cfg) (F : Nat) : Nat :=
  cfg.typeRounds * cfg.typeOrder.length + cfg.versionTries + cfg.ednsTries + upBudget cfg cfg.upOrder
    + cfg.setUpTries + (cfg.downTestTries * cfg.downOrder.length + cfg.downTestTries) + cfg.setDownTries
    + cfg.lazyTries + F + cfg.switchTries

/-- a handshake whose fragment size search ends by itself within F queries ends by itself within `hsBound cfg F`.
    The proof names the result of each phase in turn (`generalize`), so that what is left of `handshake` is a case
    analysis over those results; `l` is the bound on the probes so far: each phase appends its probes and adds its
    budget (`length_append_le`), in the order of `hsBound`. -/
theorem handshake_bounded (cfg : Cfg) (O : Oracle) (dom F : Nat)
    (hF : ∀ st, (fragSearch O cfg st).1 ≠ .outOfFuel ∧ (fragSearch O cfg st).2.length ≤ F) :
    (handshake cfg O dom).1 ≠ .outOfFuel ∧ (handshake cfg O dom).2.length ≤ hsBound cfg F := by
  unfold handshake hsBound
  generalize h1 : typeDetect O cfg = r1
  have l := typeDetect_len h1
  rcases r1 with ⟨_ | q, t1⟩ <;> dsimp only at l ⊢
  · exact ⟨nofun, Nat.le_trans l (by omega)⟩
  generalize h2 : versionPhase O cfg _ = r2
  replace l := length_append_le l (versionPhase_len h2)
  rcases r2 with ⟨_ | _, t2⟩ <;> dsimp only at l ⊢
  · exact ⟨nofun, Nat.le_trans l (by omega)⟩
  generalize h3 : ednsPhase O cfg _ = ed
  replace l := length_append_le l (ednsPhase_len h3)
  generalize h4 : upDetect O cfg _ _ = ud
  replace l := length_append_le l (upDetect_len h4)
  generalize h5 : setUpPhase O cfg _ _ = su
  replace l := length_append_le l (setUpPhase_len h5)
  generalize h6 : downDetect O cfg _ = dd
  replace l := length_append_le l (downDetect_len h6)
  rcases dd with ⟨_ | d0, t6⟩ <;> dsimp only at l ⊢
  · exact ⟨nofun, Nat.le_trans l (by omega)⟩
  generalize h7 : setDownPhase O cfg _ _ = sd
  replace l := length_append_le l (setDownPhase_len h7)
  generalize h8 : lazyPhase O cfg _ _ = lz
  replace l := length_append_le l (lazyPhase_len h8)
  generalize h9 : fragSearch O cfg _ = fr
  have l9 := h9 ▸ hF _
  replace l := length_append_le l l9.2
  rcases fr with ⟨s | _ | _, t9⟩ <;> dsimp only at l l9 ⊢
  · generalize h10 : switchPhase O cfg _ _ = sw
    have l' := length_append_le l (switchPhase_len h10)
    split   -- no size found
    · exact ⟨nofun, Nat.le_trans l (Nat.le_add_right _ _)⟩
    split   -- size too small
    · exact ⟨nofun, Nat.le_trans l (Nat.le_add_right _ _)⟩
    split <;> exact ⟨nofun, l'⟩   -- the three outcomes of the switch
  · exact ⟨nofun, Nat.le_trans l (Nat.le_add_right _ _)⟩
  · exact absurd rfl l9.1

/-- the phase values behind a successful result `p`, each phase in the client state the earlier ones left; `d0` is the
    downstream codec detected, `s` the state the fragment size search ended in -/
structure Phases (cfg : Cfg) (O : Oracle) (p : Params) (d0 : Codec) (s : FS) : Prop where
  type : (typeDetect O cfg).1 = some p.q
  version : (versionPhase O cfg { q := p.q }).1 = true
  edns : (ednsPhase O cfg { q := p.q }).1 = p.edns
  up : (setUpPhase O cfg { q := p.q, edns := p.edns } (upDetect O cfg { q := p.q, edns := p.edns } cfg.upOrder).1).1 = p.up
  detect : (downDetect O cfg { q := p.q, edns := p.edns, up := some p.up }).1 = some d0
  down : (setDownPhase O cfg { q := p.q, edns := p.edns, up := some p.up } d0).1 = p.down
  lzy : (lazyPhase O cfg { q := p.q, edns := p.edns, up := some p.up, down := some p.down } p.down).1 = p.lzy
  search : (fragSearch O cfg { q := p.q, edns := p.edns, up := some p.up, down := some p.down, lzy := p.lzy }).1 = .done s
  found : cfg.fragNone < s.max
  large : cfg.fragSmall ≤ s.max
  /-- the client keeps 0 unless the server set the size found, less the header -/
  switch : p.downfrag = 0 ∨ p.downfrag = s.max - cfg.fragHeader ∧
    (switchPhase O cfg { q := p.q, edns := p.edns, up := some p.up, down := some p.down, lzy := p.lzy }
      (s.max - cfg.fragHeader)).1 = .set

theorem handshake_ok_phases {dom : Nat} {p : Params} {tr : List Probe} (h : handshake cfg O dom = (.ok p, tr)) :
    ∃ d0 s, Phases cfg O p d0 s := by
  revert h
  fun_cases handshake cfg O dom
  -- the two exits with `.ok`; the other eight are errors
  case' case9 | case10 =>
    rename_i h1 _ _ h2 _ _ _ _ _ _ d0 hd _ _ _ _ _ _ s hs hnone hsmall _ _ hsw
    intro h; cases h
    refine ⟨d0, s, { type := h1 ▸ rfl, version := h2 ▸ rfl, edns := rfl, up := rfl, detect := hd, down := rfl, lzy := rfl,
                     search := hs, found := Nat.lt_of_not_le hnone, large := Nat.le_of_not_lt hsmall, switch := ?_ }⟩
  case case9 => exact .inr ⟨rfl, hsw⟩   -- the server set the size
  case case10 => exact .inl rfl          -- the server kept its own
  all_goals nofun

end SA.DnsHandshake
