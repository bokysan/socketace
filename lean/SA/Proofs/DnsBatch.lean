/-
  SA.Proofs.DnsBatch — a batch of opens served "at the same moment" (C13, concurrency).

  The handlers of the real listener run on one goroutine per datagram.  What makes the sequential model say anything
  about that is `usersLock`: `newUser`, `closeConnection` and the pruning task touch the session tables inside ONE
  critical section each (regenerated fact `SA.Gen.lockPaths_*`, checked by `pathAtomic` below), so each of them is an
  atomic step and a concurrent batch is the sequential run of its steps in SOME order.  For a batch of opens
  (`opens σ as`) the order does not matter: the identifiers answered and the state up to the owner fields depend on
  the number of clients only (`opens_anon`).  The two halves of a `newUser` that releases the lock between finding the
  slot and storing into it are `findSlot` / `storeSlot` (SA.Proofs.DnsServer); the witness lives in SA.Props.C13.
-/
import SA.Proofs.DnsServer

namespace SA.DnsServer
open SA.Go SA.Go.Res

/-- the opens of the clients `as`, served one after the other in the listed order: final state, and what each client
    is told (`some id`, or `none` = server full) -/
def opens (σ : Srv) : List Nat → Srv × List (Option Nat)
  | [] => (σ, [])
  | a :: as => ((opens (newUser σ a).1 as).1, (newUser σ a).2 :: (opens (newUser σ a).1 as).2)

def Sess.anon (s : Sess) : Sess := { s with owner := 0 }

/-- the server state with the owner of every session object blanked -/
def Srv.anon (σ : Srv) : Srv := { σ with heap := σ.heap.map Sess.anon }

theorem storeSlot_anon {σ τ : Srv} (h : σ.anon = τ.anon) (i a b : Nat) : (storeSlot σ i a).anon = (storeSlot τ i b).anon := by
  -- `anon` touches the heap only: the other fields of the two states are equal
  have hl : σ.live = τ.live := (congrArg Srv.live h :)
  have hr : σ.retired = τ.retired := (congrArg Srv.retired h :)
  have hn : σ.now = τ.now := (congrArg Srv.now h :)
  have hh : σ.heap.map Sess.anon = τ.heap.map Sess.anon := (congrArg Srv.heap h :)
  have hlen : σ.heap.length = τ.heap.length := by simpa using congrArg List.length hh
  simp only [storeSlot, Srv.anon, List.map_append, List.map_cons, List.map_nil, Sess.anon, hl, hr, hn, hh, hlen]

theorem newUser_anon {σ τ : Srv} (h : σ.anon = τ.anon) (a b : Nat) :
    (newUser σ a).1.anon = (newUser τ b).1.anon ∧ (newUser σ a).2 = (newUser τ b).2 := by
  rw [newUser_eq_find_store, newUser_eq_find_store, findSlot, findSlot, show σ.live = τ.live from (congrArg Srv.live h :)]
  cases firstFree τ.live with
  | none => exact ⟨h, rfl⟩
  | some i => exact ⟨storeSlot_anon h i a b, rfl⟩

theorem opens_anon : ∀ (as bs : List Nat) (σ τ : Srv), σ.anon = τ.anon → as.length = bs.length →
    (opens σ as).1.anon = (opens τ bs).1.anon ∧ (opens σ as).2 = (opens τ bs).2
  | [], [], _, _, h, _ => ⟨h, rfl⟩
  | [], _ :: _, _, _, _, hl => by simp at hl
  | _ :: _, [], _, _, _, hl => by simp at hl
  | a :: as, b :: bs, σ, τ, h, hl => by
    obtain ⟨h1, h2⟩ := newUser_anon h a b
    obtain ⟨h3, h4⟩ := opens_anon as bs _ _ h1 (by simpa using hl)
    exact ⟨h3, by simp only [opens, h2, h4]⟩

/-! ### the identifiers answered -/

theorem opens_frame : ∀ (as : List Nat) (σ : Srv), Frame (fun _ => True) σ (opens σ as).1
  | [], σ => .refl _ σ
  | _ :: as, _ => (newUser_frame rfl).trans (opens_frame as _)

theorem newUser_keeps_free {σ : Srv} {a j : Nat} (h : (newUser σ a).1.live[j]? = some none) : σ.live[j]? = some none := by
  rcases newUser_cases (σ' := (newUser σ a).1) (u := (newUser σ a).2) rfl with ⟨he, _⟩ | ⟨i, _, _, he⟩ <;> rw [he] at h
  · exact h
  · rw [live_storeSlot, List.getElem?_set] at h
    split at h
    · split at h <;> cases h
    · exact h

theorem opens_ids_free : ∀ (as : List Nat) (σ : Srv) (i : Nat), some i ∈ (opens σ as).2 → σ.live[i]? = some none
  | [], _, _, h => by simp [opens] at h
  | a :: as, σ, i, h => by
    simp only [opens, List.mem_cons] at h
    rcases h with h | h
    · exact (newUser_opens (σ' := (newUser σ a).1) (by rw [h])).free
    · exact newUser_keeps_free (opens_ids_free as _ i h)

theorem opens_ids_nodup : ∀ (as : List Nat) (σ : Srv), ((opens σ as).2.filterMap id).Nodup
  | [], _ => by simp [opens]
  | a :: as, σ => by
    have ih := opens_ids_nodup as (newUser σ a).1
    cases hr : (newUser σ a).2 with
    | none => simpa [opens, hr] using ih
    | some i =>
      simp only [opens, hr, List.filterMap_cons, id_eq]
      refine List.nodup_cons.mpr ⟨fun hmem => ?_, ih⟩
      -- answered again later, `i` would have been free after this open
      have hfree := opens_ids_free as _ i (by simpa using hmem)
      rw [(newUser_opens (σ' := (newUser σ a).1) (by rw [← hr])).slot] at hfree
      cases hfree

theorem opens_lowest : ∀ (as : List Nat) (σ : Srv) (i : Nat), some i ∈ (opens σ as).2 →
    ∀ j, j < i → ∃ s, (opens σ as).1.live[j]? = some (some s)
  | [], _, _, h, _, _ => by simp [opens] at h
  | a :: as, σ, i, h, j, hj => by
    simp only [opens, List.mem_cons] at h
    rcases h with h | h
    · rcases newUser_cases (σ := σ) (addr := a) (σ' := (newUser σ a).1) (u := some i) (by rw [h]) with ⟨_, hu⟩ | ⟨i', hu, hf, _⟩ <;> cases hu
      obtain ⟨s, hs⟩ := (firstFree_some _ _ hf).2 j hj
      exact ⟨s, (opens_frame (a :: as) σ).liveKeep j s trivial hs⟩
    · exact opens_lowest as _ i h j hj

theorem opens_owner : ∀ (as : List Nat) (σ : Srv) (k i a : Nat), (opens σ as).2[k]? = some (some i) → as[k]? = some a →
    ∃ sid, σ.heap.length ≤ sid ∧ (opens σ as).1.live[i]? = some (some sid) ∧
      ((opens σ as).1.sess sid).owner = a ∧ ((opens σ as).1.sess sid).uid = i
  | [], _, _, _, _, h, _ => by simp [opens] at h
  | b :: as, σ, 0, i, a, h, ha => by
    simp only [opens, List.getElem?_cons_zero, Option.some.injEq] at h ha
    subst ha
    have o := newUser_opens (σ' := (newUser σ b).1) (by rw [← h])
    have hG := opens_frame as (newUser σ b).1
    have hs := (hG.sessEq σ.heap.length (by rw [o.heapLen]; omega) trivial).trans o.sess
    exact ⟨σ.heap.length, Nat.le_refl _, hG.liveKeep i _ trivial o.slot, by simp only [opens]; rw [hs],
      by simp only [opens]; rw [hs]⟩
  | b :: as, σ, k + 1, i, a, h, ha => by
    simp only [opens, List.getElem?_cons_succ] at h ha
    obtain ⟨sid, h1, h2, h3, h4⟩ := opens_owner as (newUser σ b).1 k i a h ha
    exact ⟨sid, Nat.le_trans (newUser_frame (P := fun _ => True) (σ := σ) (addr := b) rfl).heapLen h1, h2, h3, h4⟩

/-! ### the lock structure: the specification of `C13_table_ops_atomic` (SA.Props.C13)

  An interpreter of control-flow paths; SA.Props.C13 evaluates it on the regenerated paths `SA.Gen.lockPaths_*`, and nothing
  else is proved about it.  It stands here because it is what the head of this file rests on when it calls `newUser`,
  `closeConnection` and the pruning task atomic steps. -/

structure LockSt where
  held : Bool := false
  deferred : Bool := false  -- `defer Unlock()` is pending: the lock is held until the function returns
  touched : Bool := false   -- a session table was accessed
  released : Bool := false  -- … and the lock was released after that
  deriving DecidableEq, Repr

/-- one event of a control-flow path: 0 Lock, 1 defer Unlock, 2 Unlock, 3..6 an access to a session table -/
def lockStep (s : LockSt) (e : Nat) : Option LockSt :=
  if e = 0 then (if s.held then none else some { s with held := true })
  else if e = 1 then (if s.held ∧ ¬ s.deferred then some { s with deferred := true } else none)
  else if e = 2 then (if s.held ∧ ¬ s.deferred then some { s with held := false, released := s.touched } else none)
  else if s.held ∧ ¬ s.released then some { s with touched := true } else none

def lockRun : LockSt → List Nat → Option LockSt
  | s, [] => some s
  | s, e :: es => match lockStep s e with
    | none => none
    | some s' => lockRun s' es

/-- every access of the path happens while `usersLock` is held, all of them inside one critical section, and the lock
    is released at the end (explicitly or by the pending `defer`) -/
def pathAtomic (p : List Nat) : Bool :=
  match lockRun {} p with
  | none => false
  | some s => s.held == s.deferred

/-- the path reads the live table and stores into it afterwards (find a slot, then occupy it) -/
def findsThenStores : List Nat → Bool
  | [] => false
  | e :: es => (e == 3 && es.contains 4) || findsThenStores es

end SA.DnsServer
