/-
  SA.Proofs.DnsRespAll — the eight record types together.

  `chunkOf` / `mkRec` tabulate the seven wrappers that cut the payload once (TXT, which cuts twice, is
  `wrap_txt`): each of them is `recsFrom (mkRec …) 1 (pieces (chunkOf …) …)` (`wrap_pieces`), and each of their
  records, once through the wire, decodes to its tag and its piece (`rec_ok`).  With `tagged_recsFrom` what
  arrives is `Tagged` (`tagged_all`), and so unwrapping any permutation of it under any correct sort gives the
  payload back (`unwrap_wire_wrap`).  At the end the whole path `roundTrip`: one equation per exit, then the success
  exit under C10's hypotheses (`roundTrip_reassembly`), which for the types DNS does not look into are met by themselves
  (`roundTrip_opaque`).
-/
import SA.Proofs.DnsRespTxt
import SA.Proofs.DnsRespNames

namespace SA.DnsResp
open SA.DnsWire SA.WireCodec SA.DnsReq

def isName : RRType → Bool
  | .srv => true
  | .mx => true
  | .cname => true
  | _ => false

/-- the region of the open finding `C10-raw-over-names`: a name-carrying record type and an encoded
    payload containing '.' or '\\' (in practice: the Raw codec; the other codecs never emit them) -/
def rawOverNames (t : RRType) (enc : List Nat) : Bool := isName t && enc.any (fun b => b == 46 || b == 92)

/-- the number of answer records WrapDnsResponse makes for `len` encoded bytes -/
def recordCount (t : RRType) (domainLen len : Nat) : Nat :=
  match t with
  | .null => ceilDiv len SA.Gen.C09.wrapChunkNull
  | .priv => ceilDiv len SA.Gen.C09.wrapChunkPrivate
  | .aaaa => ceilDiv len SA.Gen.C09.wrapChunkAAAA
  | .a => ceilDiv len SA.Gen.C09.wrapChunkA
  | .txt => ceilDiv (ceilDiv len SA.Gen.C09.wrapChunkTxt) SA.Gen.C09.wrapTxtStrings
  | .srv => ceilDiv len (longestDataString domainLen).toNat
  | .mx => ceilDiv len (longestDataString domainLen).toNat
  | .cname => ceilDiv len (longestDataString domainLen).toNat

/-- payload bytes per record -/
def chunkOf (domain : List Nat) : RRType → Nat
  | .null => SA.Gen.C09.wrapChunkNull
  | .priv => SA.Gen.C09.wrapChunkPrivate
  | .aaaa => SA.Gen.C09.wrapChunkAAAA
  | .a => SA.Gen.C09.wrapChunkA
  | .txt => SA.Gen.C09.wrapChunkTxt
  | _ => (longestDataString domain.length).toNat

/-- the record wrapper `t` makes of piece `p` with order number `o` (TXT: see `txtRec`) -/
def mkRec (domain : List Nat) : RRType → Nat → List Nat → Option RR
  | .null, o, p => some (.null (le16 o ++ p))
  | .priv, o, p => some (.priv (le16 o ++ p))
  | .aaaa, o, p => some (.aaaa (le16 o ++ p))
  | .a, o, p => some (.a ([o % 256] ++ p))
  | .txt, _, _ => none
  | .cname, o, p => (prepareHostname (orderTag o ++ p) domain).map .cname
  | .mx, o, p => (prepareHostname p domain).map (.mx ((o * 10) % 65536))
  | .srv, o, p => some (.srv (o % 65536) (p ++ dot :: (domain ++ [dot])))

theorem wrap_pieces (t : RRType) (ht : t ≠ .txt) (domain data : List Nat) (answers : List RR)
    (hw : wrap t domain data = some answers) :
    0 < chunkOf domain t ∧
    recsFrom (mkRec domain t) (tagStart t) (pieces (chunkOf domain t) data.length data) = some answers := by
  cases t with
  | txt => exact absurd rfl ht
  | null | priv | aaaa => exact ⟨by simp only [chunkOf]; decide, by rw [← hw]; exact (chunkRecs_eq ..).symm⟩
  | a =>
    rw [wrap] at hw
    split at hw
    · cases hw
    · exact ⟨(by decide : 0 < SA.Gen.C09.wrapChunkA), by rw [← hw]; exact (chunkRecs_eq ..).symm⟩
  | cname | mx | srv =>
    rw [wrap] at hw
    split at hw
    · cases hw
    · exact ⟨by simp only [chunkOf]; omega, by rw [← hw]; exact (nameRecs_eq ..).symm⟩

theorem rec_ok (t : RRType) (domain : List Nat) (dls : List (List Nat)) (hdom : isName t = true → DomainOk domain dls)
    (o : Nat) (p : List Nat) (hne : p ≠ []) (hs : isName t = true → NameSafe p) (rr r' : RR)
    (hmk : mkRec domain t o p = some rr) (hw : rrOverWire rr = .ok r') :
    typePriority r' = some (tagKey t o) ∧ unwrapOne domain.length r' = some p := by
  cases t with
  | txt => cases hmk
  | cname => exact rec_cname domain dls (hdom rfl) o p (hs rfl) rr r' hmk hw
  | mx => exact rec_mx domain dls (hdom rfl) o p hne (hs rfl) rr r' hmk hw
  | srv => cases hmk; exact rec_srv domain dls (hdom rfl) o p hne (hs rfl) r' hw
  | a =>
    cases hmk
    rw [rrOverWire] at hw
    split at hw <;> cases hw
    simp [typePriority, unwrapOne, tagKey]
  | null | priv | aaaa =>
    cases hmk
    simp only [rrOverWire, gen_private_registered, if_true] at hw
    split at hw <;> cases hw
    exact ⟨by simp [typePriority, rd16_le16_mod, tagKey], by simp [unwrapOne, le16]⟩

/-- the target of a name-carrying record over a domain spelled with its final dot ends in two dots: it does
    not pack -/
theorem mkRec_fqdn (t : RRType) (ht : isName t = true) (p c : List Nat) (o : Nat) (rr : RR)
    (hp : ∀ x ∈ p, x ≠ bsl) (hc : ∀ x ∈ c, x ≠ bsl) (hmk : mkRec (p ++ [dot]) t o c = some rr) :
    rrOverWire rr = .error .pack := by
  cases t with
  | cname =>
    obtain ⟨host, hh, rfl⟩ := Option.map_eq_some_iff.mp hmk
    have := prepareHostname_fqdn hh (List.forall_mem_append.mpr ⟨(orderTag_safe o).no_bsl, hc⟩) hp
    simp only [rrOverWire, this]; rfl
  | mx =>
    obtain ⟨host, hh, rfl⟩ := Option.map_eq_some_iff.mp hmk
    simp only [rrOverWire, prepareHostname_fqdn hh hc hp]; rfl
  | srv =>
    cases hmk
    simp only [rrOverWire, nameOverWire_dotdot c p hc hp]; rfl
  | _ => cases ht

theorem wrap_count (t : RRType) (domain data : List Nat) (answers : List RR)
    (hw : wrap t domain data = some answers) : answers.length = recordCount t domain.length data.length := by
  by_cases ht : t = .txt
  · subst ht
    rw [wrap_txt] at hw
    rw [recsFrom_length hw, pieces_length gen_txtStrings_pos (txtPieces_length_le data),
      pieces_length gen_txtChunk_pos (Nat.le_refl _)]
    rfl
  · obtain ⟨hc, hw⟩ := wrap_pieces t ht domain data answers hw
    rw [recsFrom_length hw, pieces_length hc (Nat.le_refl _)]
    cases t with
    | txt => exact absurd rfl ht
    | _ => rfl

theorem nameSafe_of (t : RRType) (data : List Nat) (hb : SA.Bytes data)
    (hexc : rawOverNames t data = false) (hn : isName t = true) : NameSafe data :=
  .of_noSyntax (by simpa [rawOverNames, hn, NoSyntax] using hexc) hb

theorem txt_groups_ok (data : List Nat) (hb : SA.Bytes data) :
    ∀ g ∈ pieces SA.Gen.C09.wrapTxtStrings data.length (pieces SA.Gen.C09.wrapChunkTxt data.length data),
      g ≠ [] ∧ g.length ≤ SA.Gen.C09.wrapTxtStrings ∧ ∀ p ∈ g, p.length ≤ SA.Gen.C09.wrapChunkTxt ∧ SA.Bytes p := by
  intro g hg
  have hgb := pieces_bounds gen_txtStrings_pos g hg
  refine ⟨hgb.1, hgb.2, fun p hp => ?_⟩
  have hpp := mem_of_mem_pieces hg hp
  exact ⟨(pieces_bounds gen_txtChunk_pos p hpp).2, fun b hbp => hb b (mem_of_mem_pieces hpp hbp)⟩

theorem tagged_all (t : RRType) (domain : List Nat) (dls : List (List Nat)) (data : List Nat)
    (answers got : List RR) (hb : SA.Bytes data) (hexc : rawOverNames t data = false)
    (hdom : isName t = true → DomainOk domain dls)
    (hw : wrap t domain data = some answers) (hwire : answersOverWire answers = .ok got) :
    ∃ ds, ds.flatten = data ∧ Tagged domain.length (tagKey t) (tagStart t) got ds := by
  by_cases ht : t = .txt
  · subst ht
    rw [wrap_txt] at hw
    have h := tagged_recsFrom domain.length (tagKey .txt) _ List.flatten _ 0 answers got
      (fun o g rr r' hg hmk hwr => by
        cases hmk
        have hg := txt_groups_ok data hb g hg
        obtain ⟨r'', h1, h2⟩ := txt_record domain.length o g hg.1 hg.2.1 hg.2.2
        exact (Except.ok.inj (h1.symm.trans hwr)) ▸ h2) hw hwire
    refine ⟨_, ?_, h⟩
    rw [← List.flatten_flatten, pieces_flatten gen_txtStrings_pos (txtPieces_length_le data),
      pieces_flatten gen_txtChunk_pos (Nat.le_refl _)]
  · obtain ⟨hc, hw⟩ := wrap_pieces t ht domain data answers hw
    have h := tagged_recsFrom domain.length (tagKey t) _ id _ _ answers got
      (fun o p rr r' hp => rec_ok t domain dls hdom o p (pieces_bounds hc p hp).1
        (fun hn b hbp => nameSafe_of t data hb hexc hn b (mem_of_mem_pieces hp hbp)) rr r') hw hwire
    rw [List.map_id] at h
    exact ⟨_, pieces_flatten hc (Nat.le_refl _), h⟩

/-- UnwrapDnsResponse returns the payload: any arrival order, any correct sort -/
theorem unwrap_wire_wrap (t : RRType) (domain : List Nat) (dls : List (List Nat)) (data : List Nat)
    (answers got : List RR) (hb : SA.Bytes data) (hexc : rawOverNames t data = false)
    (hdom : isName t = true → DomainOk domain dls)
    (hw : wrap t domain data = some answers) (hwire : answersOverWire answers = .ok got)
    (hcount : recordCount t domain.length data.length ≤ tagBound t) :
    ∀ sort, SortSpec sort → ∀ xs : List RR, xs.Perm got → unwrapWith sort domain.length xs = some data := by
  obtain ⟨ds, hflat, htag⟩ := tagged_all t domain dls data answers got hb hexc hdom hw hwire
  have hlen := (answersOverWire_length hwire).trans (wrap_count t domain data answers hw)
  exact fun sort hs xs hp => hflat ▸ unwrap_tagged hs domain.length (tagKey t) (tagStart t) got ds htag
    (fun i j _ h2 h3 => tagKey_mono t h2 (by omega)) xs hp

theorem wrap_a_none_iff (domain data : List Nat) :
    wrap .a domain data = none ↔ 255 < recordCount .a domain.length data.length := by
  have hl := recsFrom_length
    (chunkRecs_eq RR.a SA.Gen.C09.wrapChunkA (fun o => [o % 256]) data.length 1 data).symm
  rw [List.length_map, pieces_length (by decide) (Nat.le_refl _)] at hl
  rw [wrap, hl, recordCount]
  split
  · exact iff_of_true rfl ‹_›
  · exact iff_of_false nofun ‹_›

theorem wrap_opaque (t : RRType) (hn : isName t = false) (domain data : List Nat)
    (hcount : recordCount t domain.length data.length ≤ tagBound t) : ∃ answers, wrap t domain data = some answers := by
  cases t with
  | a => exact Option.ne_none_iff_exists'.mp fun h => Nat.not_le.mpr ((wrap_a_none_iff _ _).mp h) hcount
  | cname | mx | srv => cases hn
  | _ => exact ⟨_, rfl⟩

theorem txt_wire_ok (domain data : List Nat) (hb : SA.Bytes data) :
    ∃ answers got, wrap .txt domain data = some answers ∧ answersOverWire answers = .ok got := by
  have hw := recsFrom_some (fun o g => RR.txt (txtRec o g)) (pieces SA.Gen.C09.wrapTxtStrings data.length
    (pieces SA.Gen.C09.wrapChunkTxt data.length data)) 0
  obtain ⟨got, hwire⟩ := wire_recsFrom (fun o g rr hg hmk => by
    cases hmk
    have hg := txt_groups_ok data hb g hg
    obtain ⟨r', h, _⟩ := txt_record 0 o g hg.1 hg.2.1 hg.2.2
    exact ⟨r', h⟩) hw
  exact ⟨_, got, by rw [wrap_txt, hw], hwire⟩

/-- A and AAAA records are exactly 4 and 16 bytes on the wire, so there the payload has to be whole pieces -/
theorem wire_ok (t : RRType) (domain data : List Nat) (answers : List RR) (hn : isName t = false) (ht : t ≠ .txt)
    (hsz : t = .a ∨ t = .aaaa → data.length % chunkOf domain t = 0)
    (hw : wrap t domain data = some answers) : ∃ got, answersOverWire answers = .ok got := by
  obtain ⟨hc, hw⟩ := wrap_pieces t ht domain data answers hw
  refine wire_recsFrom (fun o p rr hp hmk => ?_) hw
  have hpl := (pieces_bounds hc p hp).2
  cases t with
  | txt => exact absurd rfl ht
  | cname | mx | srv => cases hn
  | null =>
    cases hmk
    have : (le16 o ++ p).length ≤ 65535 := by
      simp only [chunkOf, gen_wrapChunkNull] at hpl; simp [le16]; omega
    exact ⟨_, by rw [rrOverWire, if_pos this]⟩
  | priv =>
    cases hmk
    have : ¬ (le16 o ++ p).length > 65535 := by
      simp only [chunkOf, gen_wrapChunkPrivate] at hpl; simp [le16]; omega
    exact ⟨_, by rw [rrOverWire, if_neg this, if_pos gen_private_registered]⟩
  | aaaa =>
    cases hmk
    have : (le16 o ++ p).length = 16 := by
      rw [List.length_append, pieces_exact (hsz (.inr rfl)) p hp]; rfl
    exact ⟨_, by rw [rrOverWire, if_pos this]⟩
  | a =>
    cases hmk
    have : ([o % 256] ++ p).length = 4 := by
      rw [List.length_append, pieces_exact (hsz (.inl rfl)) p hp]; rfl
    exact ⟨_, by rw [rrOverWire, if_pos this]⟩

/-! the exits of `roundTrip`, in the order of its stages: the wrapper refuses, the wire refuses, everything succeeds
    (the two remaining exits, `.panic` and `.decError`, are what C10 excludes) -/

section RoundTrip
variable {b32 down : Codec} {t : RRType} {domain : List Nat} {r : Resp}

theorem roundTrip_wrap_none (h : wrap t domain (encodeResp b32 down r) = none) :
    roundTrip b32 down t domain r = .encError := by
  simp only [roundTrip, h]

/-- a question that does not pack is a pack error whatever the answers do -/
theorem roundTrip_wire_error {answers : List RR} {e : WireErr}
    (h1 : wrap t domain (encodeResp b32 down r) = some answers) (h2 : answersOverWire answers = .error e) :
    roundTrip b32 down t domain r = if questionOk domain = true ∧ e = .unpack then .unpackError else .packError := by
  cases hq : questionOk domain <;> cases e <;> simp [roundTrip, h1, hq, h2]

theorem roundTrip_of {r' : Resp} {answers got : List RR} {data : List Nat}
    (h1 : wrap t domain (encodeResp b32 down r) = some answers) (hq : questionOk domain = true)
    (h2 : answersOverWire answers = .ok got) (h16 : got.length < 65536) (h3 : unwrap domain.length got = some data)
    (h4 : decodeResp b32 down data = .ok r') :
    roundTrip b32 down t domain r = .ok got.length data.length r' := by
  -- ANCOUNT is 16 bits wide; below 65536 records none is cut off
  have htake : got.take (got.length % 65536) = got := by
    rw [Nat.mod_eq_of_lt h16]; exact List.take_length
  simp only [roundTrip, h1, hq, h2, htake, h3, h4, Bool.not_true, Bool.false_eq_true, if_false]

/-- the whole path when wrapping and the wire succeed, outside `rawOverNames` and within the tag range: the client decodes
    the response that was sent, from as many records as the wrapper made -/
theorem roundTrip_reassembly (hb : b32.Good) (hd : down.Good) (dls : List (List Nat)) (hr : RespOk r)
    (hq : questionOk domain = true) (hbytes : SA.Bytes (encodeResp b32 down r))
    (hexc : rawOverNames t (encodeResp b32 down r) = false) (hdom : isName t = true → DomainOk domain dls)
    (hcount : recordCount t domain.length (encodeResp b32 down r).length ≤ tagBound t) {answers got : List RR}
    (hw : wrap t domain (encodeResp b32 down r) = some answers) (hwire : answersOverWire answers = .ok got) :
    roundTrip b32 down t domain r
      = .ok (recordCount t domain.length (encodeResp b32 down r).length) (encodeResp b32 down r).length r := by
  have hcnt := wrap_count t domain _ answers hw
  have hgl := answersOverWire_length hwire
  have h16 : got.length < 65536 := by
    have : tagBound t ≤ 65535 := by cases t <;> decide
    omega
  have h3 := unwrap_eq_unwrapWith domain.length got ▸
    unwrap_wire_wrap t domain dls _ answers got hbytes hexc hdom hw hwire hcount _ sortByKey_spec got (List.Perm.refl _)
  rw [roundTrip_of hw hq hwire h16 h3 (decodeResp_encodeResp b32 down hb hd r hr), hgl, hcnt]

/-- the record types whose payload is opaque to DNS, on the sizes that pack (TXT, NULL, PRIVATE: all; A, AAAA: whole
    records): wrapping and Pack/Unpack succeed, so this is `roundTrip_reassembly` without its name-type hypotheses -/
theorem roundTrip_opaque (hb : b32.Good) (hd : down.Good) (hn : isName t = false)
    (hsz : t = .a ∨ t = .aaaa → (encodeResp b32 down r).length % chunkOf domain t = 0)
    (hr : RespOk r) (hq : questionOk domain = true) (hbytes : SA.Bytes (encodeResp b32 down r))
    (hcount : recordCount t domain.length (encodeResp b32 down r).length ≤ tagBound t) :
    roundTrip b32 down t domain r
      = .ok (recordCount t domain.length (encodeResp b32 down r).length) (encodeResp b32 down r).length r := by
  obtain ⟨answers, got, hw, hwire⟩ : ∃ answers got, wrap t domain (encodeResp b32 down r) = some answers
      ∧ answersOverWire answers = .ok got := by
    by_cases ht : t = .txt
    · exact ht ▸ txt_wire_ok domain _ hbytes
    · obtain ⟨answers, hw⟩ := wrap_opaque t hn domain _ hcount
      obtain ⟨got, hwire⟩ := wire_ok t domain _ answers hn ht hsz hw
      exact ⟨answers, got, hw, hwire⟩
  exact roundTrip_reassembly hb hd [] hr hq hbytes (by simp [rawOverNames, hn]) (by simp [hn]) hcount hw hwire

end RoundTrip

end SA.DnsResp
