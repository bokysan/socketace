/-
  SA.Proofs.ParOp — the guard of the drivers' `par <G> <iters> <op> ; <op> ; …` lines (the same `if` in
  every component's `handle`): with two numbers and well-formed ops it is false, so the line is the batch.
-/
namespace SA

theorem par_guard_false {g iters : String} {ops : List (List String)}
    (hg : g.toNat?.isSome) (hi : iters.toNat?.isSome)
    (hops : ops.all (fun o => !o.isEmpty && o.head? != some "par")) :
    (g.toNat?.isNone || iters.toNat?.isNone || ops.any (fun o => o.isEmpty || o.head? == some "par")) = false := by
  -- the third disjunct is the negation of `hops` (De Morgan under `any`)
  rw [Option.isNone_eq_false_iff.mpr hg, Option.isNone_eq_false_iff.mpr hi, Bool.or_self, Bool.false_or, ← Bool.not_eq_true',
    ← hops, List.not_any_eq_all_not]
  simp [bne]

end SA
