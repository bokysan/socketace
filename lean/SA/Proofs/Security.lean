/-
  SA.Proofs.Security — the `mustSecure` guard, and the honest pair (`Security.honestPair`: the real client model against
  the real server model, over the rendered messages) followed through once.

  Everything C04 says about grids of cells goes through `honestPair`.  `honestOutcome` is what it comes to, read off the
  two decision trees; `honestPair_eq` follows the four runs: the client's two requests are rendered requests and the
  server's answers rendered responses, so each is read back (SA.Proofs.HandshakeComplete) and the step equations
  (SA.Proofs.HandshakeSteps) say what is decided on it.  After rewriting with it a cell is a small function of Booleans.
-/
import SA.Model.Security
import SA.Proofs.HandshakeComplete
namespace SA.Security
open SA.Handshake

theorem guard_ok_iff {mustSecure : Bool} {r : CliResult} {v : B} {t : Tech} {s : Bool} {l : B} :
    guard mustSecure r = .ok v t s l ↔ r.out = .established v t s l ∧ (mustSecure = true → s = true) := by
  unfold guard
  cases r.out with
  | established v' t' s' l' => cases mustSecure <;> cases s' <;> simp +contextual [eq_comm]
  | _ => simp

/-- StartTLS is gone into iff the server offers it (`supportTls`) and the client was not told its carrier is secure;
    then both ends are TLS, or neither has a session (the certificate cannot be produced: 500; TLS fails).  Otherwise
    each end reports what IT was told about the carrier. -/
def honestOutcome (scfg : SrvCfg) (csecure tlsOk : Bool) : Pair :=
  if supportTls scfg && !csecure then
    if scfg.cert == .okerr then ⟨.refused 500, .refused 500⟩
    else if tlsOk then ⟨.established Gen.c06ProtocolVersion .tls true [], .established Gen.c06ProtocolVersion .tls true []⟩
    else ⟨.closed, .tlsfail⟩
  else
    ⟨.established Gen.c06ProtocolVersion (if scfg.secure then .underlying else .none) scfg.secure [],
     .established Gen.c06ProtocolVersion (if csecure then .underlying else .none) csecure []⟩

/-- the server's answer `w`, status line `st SP text`, as (*Response).String renders it -/
theorem render_eq (w : Wrote) (st text : B) (h : statusText w.code = st ++ [32] ++ text) :
    render w = wireResponse bHttp11 st text (renderHeaders w.headers) := by
  simp [render, h, wireResponse, wireMessage, wireBlock, renderHeaders, List.map_map, Function.comp_def, wireHeader,
    colonSp, crlf, bHttp11]

theorem readResponse_render (w : Wrote) (st text : B) (code : Int) (h : statusText w.code = st ++ [32] ++ text)
    (hst : wfWord st = true) (hc : parseInt32 st = some code) (ht : wfTail text = true)
    (hw : wfHeaders w.headers = true) (f : Nat) (hf : w.headers.length < f) (rest : B) :
    readResponse f ⟨render w ++ rest, []⟩ = .ok (⟨bHttp11, code, text, parsedHeaders w.headers⟩, ⟨rest, []⟩) := by
  rw [render_eq w st text h, ← parsedHeaders_render]
  exact readResponse_wire bHttp11 st text code _ (by decide) hst hc ht (wfHeaders_render _ hw) f
    (by simpa [renderHeaders] using hf) rest

/-- the fuel of a run on a stream that starts with a rendered answer is enough for its header blocks -/
theorem fuel_render (w : Wrote) (rest : B) : 4 < (render w ++ rest).length + 2 := by
  simp only [render, List.length_append, List.length_cons, List.length_nil]; omega

def announceHeaders : Headers :=
  [(Gen.acceptsProtocolVersion, Gen.c06ProtocolVersion), (Gen.userAgent, bSocketaceSlash ++ Gen.unknownVersion)]

theorem announceRequest_render : announceRequest = renderRequest Gen.requestMethod [47] bHttp11 announceHeaders := by
  -- two closed byte strings: `rfl` would have the elaborator evaluate both, at seven times the cost
  decide +kernel

/-! The five messages of the honest pair, one lemma each: the message is read back (`readRequest_render`,
    `readResponse_render`) and the step equation says what is decided on it.  The `by decide` / `rfl` arguments are the
    well-formedness of the message and the values of the regenerated constants in it, so a changed constant fails in the
    lemma named after the message.  The bound on the fuel is the number of header lines of the message (the header loop
    takes one unit per line and one for the empty line): 2 in the announce, at most 3 in the 200, at most 4 in the upgrade
    request, 4 in the 101, none in the 500. -/

theorem serverOn_announce (cfg : SrvCfg) (tls : B → Bool) (f : Nat) (hf : 2 < f) (rest : B) :
    serverOn cfg tls f ⟨announceRequest ++ rest, []⟩ =
      upgradeStep cfg tls f Gen.c06ProtocolVersion [w200 cfg Gen.c06ProtocolVersion] ⟨rest, []⟩ := by
  rw [announceRequest_render]
  -- the verdict (`rfl`): the method is the one the server tests for, and the version the client announces is supported
  exact serverOn_of_ok (readRequest_render Gen.requestMethod [47] bHttp11 announceHeaders (by decide) (by decide)
    (by decide) (by decide) f hf rest) rfl

theorem clientOn_w200 (cfg : SrvCfg) (s0 : Bool) (tls : B → Bool) (f : Nat) (hf : 3 < f) (rest : B) :
    clientOn s0 tls f ⟨render (w200 cfg Gen.c06ProtocolVersion) ++ rest, []⟩ =
      clientUpgrade s0 tls f Gen.c06ProtocolVersion (!s0 && supportTls cfg) ⟨rest, []⟩ := by
  have hw : wfHeaders (w200 cfg Gen.c06ProtocolVersion).headers = true ∧
      (w200 cfg Gen.c06ProtocolVersion).headers.length < 4 := by
    unfold w200 capsHeaders
    cases supportTls cfg <;> decide
  rw [clientOn_steps, readResponse_render (w200 cfg Gen.c06ProtocolVersion) [50, 48, 48] [79, 75] 200 rfl (by decide)
    (by decide) (by decide) hw.1 f (by omega) rest]
  unfold w200 capsHeaders
  cases supportTls cfg <;> cases s0 <;> rfl

theorem upgradeStep_client (cfg : SrvCfg) (tls : B → Bool) (f : Nat) (hf : 4 < f) (prev : List Wrote) (sh : Bool)
    (rest : B) :
    upgradeStep cfg tls f Gen.c06ProtocolVersion prev ⟨upgradeRequest Gen.c06ProtocolVersion sh ++ rest, []⟩ =
      (if sh then Verdict.ofStartTls cfg else .plain).answer cfg Gen.c06ProtocolVersion prev (tls rest) rest := by
  rw [upgradeStep_eq, upgradeRequest_render _ sh (by decide),
    readRequest_render Gen.srvUpgradeMethod [47] bHttp11 _ (by decide) (by decide) (by decide)
      (by cases sh <;> decide) f (by cases sh <;> exact Nat.lt_of_le_of_lt (by decide) hf) rest]
  dsimp only
  rw [flat_mk_nil]
  unfold upgradeVerdict
  cases sh <;> rfl

theorem clientUpgrade_w101 (s0 : Bool) (tls : B → Bool) (f : Nat) (hf : 4 < f) (ver : B) (sh : Bool) (rest : B) :
    (clientUpgrade s0 tls f ver sh ⟨render (w101 Gen.c06ProtocolVersion) ++ rest, []⟩).out =
      clientSession s0 ver sh (tls rest) rest := by
  unfold clientUpgrade
  rw [readResponse_render (w101 Gen.c06ProtocolVersion) [49, 48, 49] _ 101 rfl (by decide) (by decide) (by decide)
    (by decide) f hf rest]
  dsimp only
  rw [flat_mk_nil]
  rfl

theorem clientUpgrade_w500 (s0 : Bool) (tls : B → Bool) (f : Nat) (hf : 0 < f) (ver : B) (sh : Bool) (rest : B) :
    (clientUpgrade s0 tls f ver sh ⟨render ⟨500, []⟩ ++ rest, []⟩).out = .refused 500 := by
  unfold clientUpgrade
  rw [readResponse_render ⟨500, []⟩ [53, 48, 48] _ 500 rfl (by decide) (by decide) (by decide) (by decide) f hf rest]
  rfl

theorem honestPair_eq (scfg : SrvCfg) (csecure tlsOk : Bool) :
    honestPair scfg csecure tlsOk = honestOutcome scfg csecure tlsOk := by
  unfold honestPair
  simp only [serverRun_flat, clientRun_flat, List.flatten_cons, List.flatten_nil, List.append_nil]
  generalize htls : (fun left : B => tlsOk && left.isEmpty) = tls
  have h0 : tls [] = tlsOk := by rw [← htls]; simp
  have hA : 3 ≤ announceRequest.length := by decide
  -- the server answers the announce with `200` and waits
  have s1 := serverOn_announce scfg tls (announceRequest.length + 2) (by omega) []
  rw [List.append_nil, upgradeStep_eof] at s1
  rw [s1]
  simp only [List.map_cons, List.map_nil, List.flatten_cons, List.flatten_nil, List.append_nil]
  -- the client reads it, decides about StartTLS (`sh`) and writes its upgrade request
  have c1 := clientOn_w200 scfg csecure tls _ (Nat.lt_of_succ_lt (fuel_render (w200 scfg Gen.c06ProtocolVersion) [])) []
  rw [List.append_nil, clientUpgrade_eof] at c1
  rw [c1]
  dsimp only
  generalize hsh : (!csecure && supportTls scfg) = sh
  -- the server's verdict on it
  have hf : 4 < (announceRequest ++ upgradeRequest Gen.c06ProtocolVersion sh).length + 2 := by
    rw [List.length_append]; omega
  have s2 := upgradeStep_client scfg tls _ hf [w200 scfg Gen.c06ProtocolVersion] sh []
  rw [List.append_nil] at s2
  rw [serverOn_announce scfg tls _ (Nat.lt_trans (by decide) hf), s2, h0]
  -- its answer after the `200`: the status it refuses with, or `101`; the client reads both
  have hw : ∀ V : Verdict, (V.answer scfg Gen.c06ProtocolVersion [w200 scfg Gen.c06ProtocolVersion] tlsOk []).written =
      [w200 scfg Gen.c06ProtocolVersion, match V with | .refuse st => ⟨st, []⟩ | _ => w101 Gen.c06ProtocolVersion] :=
    fun V => by cases V <;> rfl
  simp only [hw, List.map_cons, List.map_nil, List.flatten_cons, List.flatten_nil]
  rw [clientOn_w200 scfg csecure tls _ (Nat.lt_of_succ_lt (fuel_render _ _)), hsh]
  have hs : (supportTls scfg && !csecure) = sh := by rw [Bool.and_comm]; exact hsh
  unfold honestOutcome
  rw [hs]
  cases sh with
  | false =>
    simp only [Bool.false_eq_true, if_false]
    rw [clientUpgrade_w101 _ _ _ (fuel_render _ _)]
    rfl
  | true =>
    have hsup : supportTls scfg = true := by cases h : supportTls scfg <;> simp [h] at hs; rfl
    by_cases hr : CanStartTls scfg
    · have hk := ((canStartTls_iff_supportTls scfg).mp hr).2
      simp only [Verdict.ofStartTls, hr, hk, if_true, Bool.false_eq_true, if_false]
      rw [clientUpgrade_w101 _ _ _ (fuel_render _ _), h0]
      cases tlsOk <;> rfl
    · have hk : (scfg.cert == CertMode.okerr) = true := by
        cases h : scfg.cert == CertMode.okerr
        · exact absurd ((canStartTls_iff_supportTls scfg).mpr ⟨hsup, h⟩) hr
        · rfl
      simp only [Verdict.ofStartTls, hr, hsup, if_true, if_false, hk]
      rw [clientUpgrade_w500 _ _ _ (Nat.lt_trans (by decide) (fuel_render _ _))]
      rfl

/-- as an equation of functions: `rw` with it reaches the pair under binders, in one pass over a large term -/
theorem honestPair_fun : honestPair = honestOutcome :=
  funext fun scfg => funext fun csecure => funext fun tlsOk => honestPair_eq scfg csecure tlsOk

end SA.Security
