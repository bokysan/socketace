/-
  The lost session with a stalled target, SA.Model.StalledSession (C14).  Every step only sets flags (`Mono`), so under
  both policies a schedule in which the four actions each get a turn in order ends released, whatever else runs in
  between; with either policy off the corresponding flags are never set.
-/
import SA.Model.StalledSession
import SA.Proofs.Run
namespace SA.StalledSession

/-- progress is never undone: every flag set in `s` is set in `t` -/
structure Mono (s t : St) : Prop where
  writeFailed : s.writeFailed = true → t.writeFailed = true
  sessionClosed : s.sessionClosed = true → t.sessionClosed = true
  acceptEnded : s.acceptEnded = true → t.acceptEnded = true
  targetClosed : s.targetClosed = true → t.targetClosed = true

theorem Mono.refl (s : St) : Mono s s := ⟨id, id, id, id⟩

theorem Mono.trans {s t u : St} (h : Mono s t) (h' : Mono t u) : Mono s u :=
  ⟨h'.1 ∘ h.1, h'.2 ∘ h.2, h'.3 ∘ h.3, h'.4 ∘ h.4⟩

/-- a step sets one flag or changes nothing -/
theorem step_mono (p : Policy) (s : St) (a : Act) : Mono s (step p s a) := by
  cases a <;> simp only [step]
  · exact ⟨fun _ => rfl, id, id, id⟩
  · split
    · exact ⟨id, fun _ => rfl, id, id⟩
    · exact .refl s
  · split
    · exact ⟨id, id, fun _ => rfl, id⟩
    · exact .refl s
  · split
    · exact ⟨id, id, id, fun _ => rfl⟩
    · exact .refl s

theorem run_mono (p : Policy) (s : St) (as : List Act) : Mono s (run p s as) :=
  foldl_invariant (P := Mono s) (fun h => h.trans (step_mono p _ _)) (.refl s) as

theorem run_append (p : Policy) (s : St) (xs ys : List Act) : run p s (xs ++ ys) = run p (run p s xs) ys :=
  List.foldl_append

/-- a stretch of schedule in which action `a` occurs -/
theorem run_with (p : Policy) (s : St) (as : List Act) (a : Act) (h : a ∈ as) :
    ∃ xs ys, as = xs ++ a :: ys := List.append_of_mem h

def both : Policy := ⟨true, true⟩

theorem ping_fails (t : St) : (step both t .ping).writeFailed = true := rfl
theorem close_after_fail (t : St) (h : t.writeFailed = true) : (step both t .closeSession).sessionClosed = true := by
  simp [step, both, h]
theorem announce_after_close (t : St) (h : t.sessionClosed = true) :
    (step both t .announce).acceptEnded = true ∧ (step both t .announce).sessionClosed = true := by
  simp [step, h]
theorem release_after_announce (t : St) (h : t.acceptEnded = true) (hc : t.sessionClosed = true) :
    released (step both t .releaseTarget) = true := by
  simp [step, both, h, hc, released]
theorem released_stays (t : St) (as : List Act) (h : released t = true) : released (run both t as) = true := by
  simp only [released, Bool.and_eq_true] at h ⊢
  have m := run_mono both t as
  exact ⟨⟨m.sessionClosed h.1.1, m.acceptEnded h.1.2⟩, m.targetClosed h.2⟩

theorem released_of_turns (s : St) (A0 A1 A2 A3 A4 : List Act) :
    released (run both s
      (A0 ++ Act.ping :: (A1 ++ Act.closeSession :: (A2 ++ Act.announce :: (A3 ++ Act.releaseTarget :: A4))))) = true := by
  have turn : ∀ (t : St) (xs : List Act) (a : Act) (ys : List Act),
      run both t (xs ++ a :: ys) = run both (step both (run both t xs) a) ys := fun t xs a ys => by
    rw [run_append]; rfl
  rw [turn, turn, turn, turn]
  apply released_stays
  -- each turn finds what the one before it set, kept through the stretch in between
  have w := (run_mono both _ A1).writeFailed (ping_fails (run both s A0))
  have c := (run_mono both _ A2).sessionClosed (close_after_fail _ w)
  have a := announce_after_close _ c
  exact release_after_announce _ ((run_mono both _ A3).acceptEnded a.1) ((run_mono both _ A3).sessionClosed a.2)

/-- without the carrier watch nothing is ever released, whatever the schedule -/
theorem stuck_without_watch (r : Bool) (as : List Act) :
    (run ⟨false, r⟩ {} as).sessionClosed = false ∧ (run ⟨false, r⟩ {} as).acceptEnded = false ∧
    (run ⟨false, r⟩ {} as).targetClosed = false :=
  foldl_invariant (P := fun s : St => s.sessionClosed = false ∧ s.acceptEnded = false ∧ s.targetClosed = false)
    (fun {s a} h => by cases a <;> simp [step, h]) ⟨rfl, rfl, rfl⟩ as

/-- without the handlers' release the connection to the stalled target stays, whatever the schedule -/
theorem target_stays_without_release (w : Bool) (as : List Act) :
    (run ⟨w, false⟩ {} as).targetClosed = false :=
  foldl_invariant (P := fun s : St => s.targetClosed = false)
    (fun {s a} h => by
      cases a <;> simp only [step]
      case ping => exact h
      case closeSession => split <;> exact h
      case announce => split <;> exact h
      case releaseTarget => exact h) rfl as

end SA.StalledSession
