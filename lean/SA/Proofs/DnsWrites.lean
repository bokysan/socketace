/-
  SA.Proofs.DnsWrites — invariants of the multi-write model SA.Model.DnsWrites:

  * every history of the model is a history of SA.Queue events (`reach`), all of them within the
    fates and bounds of `WellBounded` (`wb`), so SA.Proofs.Queue applies;
  * with `n += len(data)` before the error return (`countPos = 0`) the bytes accepted at the client in
    the sense of SA.Queue (`End.acc`: every fragment ever enqueued) are exactly the first Σ n bytes of
    the application's stream (`acc`).
-/
import SA.Model.DnsWrites
import SA.Proofs.Queue
namespace SA.DnsWrites
open SA.Queue

theorem genBytes_add (off a b : Nat) : genBytes off (a + b) = genBytes off a ++ genBytes (off + a) b := by
  unfold genBytes
  rw [List.range_add, List.map_append, List.map_map]
  -- not `congr 1`: it first tries to unify the two mapped functions, unfolding `genByte`
  exact congrArg (_ ++ ·) (List.map_congr_left fun i _ => by
    show genByte (off + (a + i)) = genByte (off + a + i)
    rw [Nat.add_assoc])

theorem genBytes_length (off n : Nat) : (genBytes off n).length = n := by simp [genBytes]

theorem genBytes_take (off k n : Nat) (h : n ≤ k) : (genBytes off k).take n = genBytes off n := by
  obtain ⟨m, rfl⟩ : ∃ m, k = n + m := ⟨k - n, by omega⟩
  rw [genBytes_add, List.take_left' (genBytes_length off n)]

theorem prefix_genBytes {L : List Nat} {off k : Nat} (h : L <+: genBytes off k) : L = genBytes off L.length := by
  have hle := h.length_le
  rw [genBytes_length] at hle
  rw [List.prefix_iff_eq_take, genBytes_take _ _ _ hle] at h
  exact h

section core
variable {f : Facts} {mtu : Nat}

/-- a core state reached by well-bounded SA.Queue events from the initial state -/
structure Reach (f : Facts) (mtu sab sba Bd : Nat) (s : Core) : Prop where
  run : s.sys = runS f.cfg mtu (init sab sba) s.evs.reverse
  wb : s.evs.all (evOk mtu 0 Bd) = true

theorem Reach.ap {sab sba Bd : Nat} {s : Core} (h : Reach f mtu sab sba Bd s) (e : Ev)
    (he : evOk mtu 0 Bd e = true) : Reach f mtu sab sba Bd (Core.ap f mtu s e) := by
  refine ⟨?_, ?_⟩
  · simp only [Core.ap, List.reverse_cons]; rw [runS_snoc, ← h.run]
  · simp only [Core.ap, List.all_cons, he, h.wb, Bool.and_self]

/-- what the exchange machinery does to a core: whatever history reached `s` — from any starting numbers, within
    any bounds — reaches `s'`, and the client's accepted bytes stay -/
structure Keeps (f : Facts) (mtu : Nat) (s s' : Core) : Prop where
  reach : ∀ {sab sba Bd : Nat}, Reach f mtu sab sba Bd s → Reach f mtu sab sba Bd s'
  acc : s'.sys.a.accR = s.sys.a.accR

theorem Keeps.refl (s : Core) : Keeps f mtu s s := ⟨id, rfl⟩

theorem Keeps.trans {s1 s2 s3 : Core} (h1 : Keeps f mtu s1 s2) (h2 : Keeps f mtu s2 s3) : Keeps f mtu s1 s3 :=
  ⟨fun r => h2.reach (h1.reach r), by rw [h2.acc, h1.acc]⟩

/-- an exchange that is no replay is within every bound -/
theorem keeps_xchg (f : Facts) (mtu : Nat) (s : Core) (ft : Fate) (hft : ∀ Bd, evOk mtu 0 Bd (.xchg ft) = true) :
    Keeps f mtu s (Core.ap f mtu s (.xchg ft)) :=
  ⟨fun r => r.ap _ (hft _), xchg_accR f.cfg mtu s.sys ft⟩

theorem keeps_nextChunk (f : Facts) (mtu : Nat) (s : Core) : Keeps f mtu s (nextChunk f mtu s) :=
  keeps_xchg f mtu s .ql fun _ => rfl

theorem keeps_tryOnce (f : Facts) (mtu : Nat) (s : Core) : Keeps f mtu s (tryOnce f mtu s).1 := by
  unfold tryOnce
  have h0 : Keeps f mtu s { s with fates := s.fates.tail, calls := s.calls + 1 } := ⟨fun r => ⟨r.run, r.wb⟩, rfl⟩
  cases s.fates.head?.getD s.dflt <;> simp only
  · exact h0.trans (keeps_xchg f mtu _ .d fun _ => rfl)
  · exact h0.trans (keeps_xchg f mtu _ .ql fun _ => rfl)
  · exact h0.trans (keeps_xchg f mtu _ .al fun _ => rfl)
  · exact h0.trans (keeps_xchg f mtu _ .ql fun _ => rfl)
  · exact h0

theorem keeps_sendRecv (f : Facts) (mtu : Nat) (left : Nat) : ∀ s : Core, Keeps f mtu s (sendRecv f mtu left s).1 := by
  induction left with
  | zero => exact Keeps.refl
  | succ left ih =>
    intro s
    have h1 := keeps_tryOnce f mtu s
    unfold sendRecv
    simp only
    split
    · exact h1                      -- delivered
    · exact h1                      -- another error
    · split                         -- a loss …
      · split
        · exact h1                  -- … recognised, on the last try
        · exact h1.trans (ih _)     -- … recognised, tries left: the next try
      · exact h1                    -- … not taken for a timeout

theorem keeps_pollBody (hpoll : f.pollArg = 0) (s : Core) : Keeps f mtu s (pollBody f mtu s).1 := by
  unfold pollBody
  rw [if_pos hpoll]
  exact (keeps_nextChunk f mtu s).trans (keeps_sendRecv f mtu _ _)

theorem keeps_chunkAdded (f : Facts) (mtu : Nat) (fuel : Nat) : ∀ s : Core,
    Keeps f mtu s (chunkAdded f mtu fuel s).1 ∧
    ((chunkAdded f mtu fuel s).2 = true → (chunkAdded f mtu fuel s).1.sys.a.outq.out = []) := by
  induction fuel with
  | zero => exact fun s => ⟨Keeps.refl s, by simp [chunkAdded]⟩
  | succ fuel ih =>
    intro s
    have h1 := keeps_nextChunk f mtu s
    unfold chunkAdded
    simp only
    split
    · rename_i h0; exact ⟨h1, fun _ => h0⟩
    · have h2 := keeps_sendRecv f mtu f.tries (nextChunk f mtu s)
      split
      · obtain ⟨k, hk⟩ := ih (sendRecv f mtu f.tries (nextChunk f mtu s)).1
        exact ⟨(h1.trans h2).trans k, hk⟩
      · exact ⟨h1.trans h2, by simp⟩

theorem write_frag {Bd : Nat} (hBd : 1 ≤ Bd) (s : Core) (d : List Nat) (hd : d.length ≤ mtu)
    (hout : s.sys.a.outq.out = []) :
    (∀ {sab sba : Nat}, Reach f mtu sab sba Bd s → Reach f mtu sab sba Bd (Core.ap f mtu s (.write false d))) ∧
    (Core.ap f mtu s (.write false d)).sys.a.acc = s.sys.a.acc ++ d := by
  refine ⟨fun r => r.ap _ ?_, ?_⟩
  · have := chunks_small hd
    simp only [evOk, decide_eq_true_eq]; omega
  · exact writeEnd_acc hout

/-- `r` is what the fragment loop returns when, started in `s` with count `n`, it has enqueued the first `j` of the
    fragments `ds` -/
structure Enqueued (f : Facts) (mtu Bd : Nat) (ds : List (List Nat)) (s : Core) (n : Nat) (r : Core × Nat × Bool)
    (j : Nat) : Prop where
  le : j ≤ ds.length
  reach : ∀ {sab sba : Nat}, Reach f mtu sab sba Bd s → Reach f mtu sab sba Bd r.1
  acc : r.1.sys.a.acc = s.sys.a.acc ++ (ds.take j).flatten
  count : r.2.1 = n + (ds.take j).flatten.length
  all : r.2.2 = true → j = ds.length

/-- **the accounting of `n` in the fragment loop** with `n += len(data)` before the error return:
    the loop enqueues a prefix `ds.take j` of the fragments, reports exactly their total length, and
    reports success only when that prefix is everything. -/
theorem writeLoop_counts {Bd : Nat} (hBd : 1 ≤ Bd) (hpos : f.countPos = 0) :
    ∀ (ds : List (List Nat)) (s : Core) (n : Nat), (∀ d ∈ ds, d.length ≤ mtu) → s.sys.a.outq.out = [] →
      ∃ j, Enqueued f mtu Bd ds s n (writeLoop f mtu ds s n) j := by
  intro ds
  induction ds with
  | nil => exact fun s n _ _ => ⟨0, Nat.le_refl _, id, by simp [writeLoop], by simp [writeLoop], fun _ => rfl⟩
  | cons d ds ih =>
    intro s n hlen hout
    obtain ⟨w1, w2⟩ := write_frag (f := f) hBd s d (hlen d (by simp)) hout
    obtain ⟨k1, k2⟩ := keeps_chunkAdded f mtu
      ((Core.ap f mtu s (.write false d)).sys.a.outq.out.length + 3) (Core.ap f mtu s (.write false d))
    have hacc1 : (chunkAdded f mtu ((Core.ap f mtu s (.write false d)).sys.a.outq.out.length + 3)
        (Core.ap f mtu s (.write false d))).1.sys.a.acc = s.sys.a.acc ++ d := by
      rw [← w2]; exact End.acc_congr k1.acc
    unfold writeLoop
    simp only [hpos, if_true]
    split
    · -- the callback succeeded: `out` is empty again, the loop goes on
      rename_i hok
      obtain ⟨j, e⟩ := ih _ (n + d.length) (fun x hx => hlen x (by simp [hx])) (k2 hok)
      refine ⟨j + 1, by simp; exact e.le, fun rr => e.reach (k1.reach (w1 rr)), ?_, ?_, fun h => by simp [e.all h]⟩
      · rw [e.acc, hacc1]; simp
      · rw [e.count]; simp; omega
    · exact ⟨1, by simp, fun rr => k1.reach (w1 rr), by rw [hacc1]; simp, by simp, by simp⟩

end core

/-- W events are bounded like the writes of `WellBounded` -/
def WEv.ok (Bd : Nat) : WEv → Bool
  | .W k => decide (k ≤ Bd)
  | _ => true

structure CoreInv (f : Facts) (mtu sab sba Bd : Nat) (c : Core) (posU : Nat) : Prop where
  reach : Reach f mtu sab sba Bd c
  /-- what SA.Queue calls accepted at the client is what the client's Writes reported -/
  acc : c.sys.a.acc = streamU 0 posU

/-- The invariant of a state looks at its core and at the client's position only.  What else a state has (parked
    Writes, the deadline flag, the trace, the server's position) does not enter, so a step that changes only those
    keeps it by `exact h`. -/
abbrev Inv (f : Facts) (mtu sab sba Bd : Nat) (s : St) : Prop := CoreInv f mtu sab sba Bd s.core s.posU

section hist
variable {f : Facts} {mtu sab sba Bd : Nat}

theorem CoreInv.keeps {c c' : Core} {p : Nat} (h : CoreInv f mtu sab sba Bd c p) (k : Keeps f mtu c c') :
    CoreInv f mtu sab sba Bd c' p :=
  ⟨k.reach h.reach, (End.acc_congr k.acc).trans h.acc⟩

theorem CoreInv.ap {c : Core} {p : Nat} (h : CoreInv f mtu sab sba Bd c p) (e : Ev) (he : evOk mtu 0 Bd e = true)
    (ha : (stepS f.cfg mtu c.sys e).a.accR = c.sys.a.accR) : CoreInv f mtu sab sba Bd (Core.ap f mtu c e) p :=
  ⟨h.reach.ap e he, (End.acc_congr ha).trans h.acc⟩

theorem doWriteU_inv (hm : 0 < mtu) (hBd : 1 ≤ Bd) (hpos : f.countPos = 0) {s : St}
    (h : Inv f mtu sab sba Bd s) (hout : s.core.sys.a.outq.out = []) {k : Nat} {pre : String} :
    Inv f mtu sab sba Bd (doWriteU f mtu s k pre) := by
  obtain ⟨j, e⟩ :=
    writeLoop_counts hBd hpos (chunks mtu (streamU s.posU k)) s.core 0 (fun d hd => chunks_mem_le hm hd) hout
  unfold doWriteU
  refine ⟨e.reach h.reach, ?_⟩
  show (writeLoop f mtu (chunks mtu (streamU s.posU k)) s.core 0).1.sys.a.acc
    = streamU 0 (s.posU + (writeLoop f mtu (chunks mtu (streamU s.posU k)) s.core 0).2.1)
  -- the fragments enqueued are a prefix of the chunks of the next `k` bytes of the stream
  have hL := prefix_genBytes (chunks_flatten hm (streamU s.posU k) ▸ take_flatten_prefix _ j)
  rw [e.acc, e.count, h.acc, Nat.zero_add]
  unfold streamU
  rw [genBytes_add, Nat.zero_add]
  exact congrArg (genBytes 0 s.posU ++ ·) hL

theorem settleD_inv {s : St} (h : Inv f mtu sab sba Bd s) : Inv f mtu sab sba Bd (settleD s) := by
  unfold settleD
  split
  · split <;> exact h
  · exact h

theorem settleU_inv (hm : 0 < mtu) (hBd : 1 ≤ Bd) (hpos : f.countPos = 0) {s : St}
    (h : Inv f mtu sab sba Bd s) : Inv f mtu sab sba Bd (settleU f mtu s) := by
  unfold settleU
  split
  · split
    · rename_i hout
      exact doWriteU_inv hm hBd hpos (s := { s with pendU := none }) h hout
    · exact h
  · exact h

theorem settle_inv (hm : 0 < mtu) (hBd : 1 ≤ Bd) (hpos : f.countPos = 0) {s : St}
    (h : Inv f mtu sab sba Bd s) : Inv f mtu sab sba Bd (settle f mtu s) :=
  settleD_inv (settleU_inv hm hBd hpos (settleD_inv h))

theorem stepW_inv (hm : 0 < mtu) (hBd : 1 ≤ Bd) (hpos : f.countPos = 0) (hpoll : f.pollArg = 0) {s : St}
    (h : Inv f mtu sab sba Bd s) (e : WEv) (he : e.ok Bd = true) : Inv f mtu sab sba Bd (stepW f mtu s e) := by
  cases e with
  | w k =>
    simp only [stepW]
    split
    · exact h                       -- a Write is parked already
    · split
      · exact h                     -- deadline in the past
      · split
        · exact h                   -- `out` not empty: parked
        · rename_i hout             -- the fragment loop runs
          exact doWriteU_inv hm hBd hpos h (by simpa using hout)
  | W k =>
    simp only [stepW]
    split
    · exact h                       -- a Write is parked already
    · split
      · exact h                     -- nothing to write
      · have hk : k ≤ Bd := by simpa [WEv.ok] using he
        have hc : (chunks mtu (streamD s.posD k)).length ≤ Bd := by
          have := chunks_length_le hm (streamD s.posD k)
          have hl : (streamD s.posD k).length = k := genBytes_length _ _
          omega
        exact CoreInv.ap h (.write true (streamD s.posD k)) (by simpa [evOk] using hc) rfl
  | p => exact CoreInv.keeps h (keeps_pollBody hpoll s.core)
  | r k =>
    simp only [stepW]
    exact CoreInv.ap h (.read true k) rfl rfl
  | R k =>
    simp only [stepW]
    exact CoreInv.ap h (.read false k) rfl (readEnd_adv s.core.sys.a k).acc
  | D => exact h
  | N => exact h

theorem runW_skipRun (f : Facts) (mtu : Nat) : SkipRun (fun s e => some (stepE f mtu s e)) (runW f mtu) :=
  ⟨fun _ => rfl, fun _ _ _ => rfl⟩

theorem runW_inv (hm : 0 < mtu) (hBd : 1 ≤ Bd) (hpos : f.countPos = 0) (hpoll : f.pollArg = 0) {s : St}
    (h : Inv f mtu sab sba Bd s) (es : List WEv) (hall : es.all (WEv.ok Bd) = true) :
    Inv f mtu sab sba Bd (runW f mtu s es) :=
  (runW_skipRun f mtu).induct_total (P := Inv f mtu sab sba Bd) (Q := fun e => e.ok Bd = true)
    (fun he h => settle_inv hm hBd hpos (stepW_inv hm hBd hpos hpoll h _ he)) h es (List.all_eq_true.mp hall)

theorem start_inv (fates : List XF) : Inv f mtu sab sba Bd (start sab sba fates) :=
  ⟨⟨rfl, rfl⟩, rfl⟩

end hist

end SA.DnsWrites
