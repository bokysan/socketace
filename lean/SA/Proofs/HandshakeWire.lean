/-
  SA.Proofs.HandshakeWire — the wire format of a handshake message and the proof that the model's
  textproto reader (`readHeader`) reads every well-formed message back.

  A message on the wire is `first line CRLF (name ":" raw-value CRLF)* CRLF`.  Go's
  `(*Request).String` / `(*Response).String` (prepareFirstLine + http.Header.Write) produce the instance
  where every raw value is `" " ++ value` (`renderHeaders`).

  "Well-formed header" (`wfHeader`) is the decidable predicate
    * name: non-empty, every byte a token byte (`validHeaderFieldByte`) or a space, first byte not a space;
    * raw value: every byte a `validHeaderValueByte` (HTAB, SP, 0x21–0x7e, ≥ 0x80 — hence no CR / LF / NUL / DEL).
  Such a line is read back as `(canonicalMIMEHeaderKey name, trim raw)`.
-/
import SA.Proofs.Handshake
namespace SA.Handshake

/-- one header line: `name ":" raw CRLF` -/
def wireHeader (kv : B × B) : B := kv.1 ++ 58 :: (kv.2 ++ [13, 10])
def wireBlock (hs : Headers) : B := (hs.map wireHeader).flatten
/-- first line, header lines, blank line -/
def wireMessage (line : B) (hs : Headers) : B := line ++ 13 :: 10 :: (wireBlock hs ++ [13, 10])

/-- http.Header.Write: `name ": " value CRLF` -/
def renderHeaders (hs : Headers) : Headers := hs.map fun kv => (kv.1, 32 :: kv.2)

/-- a request on the wire: `method SP url SP proto CRLF`, header lines `name ":" raw CRLF`, blank line -/
def wireRequest (m u p : B) (ws : Headers) : B := wireMessage (m ++ [32] ++ u ++ [32] ++ p) ws
/-- a response on the wire: `proto SP code SP text CRLF`, header lines, blank line -/
def wireResponse (proto code text : B) (ws : Headers) : B := wireMessage (proto ++ [32] ++ code ++ [32] ++ text) ws

/-- (*Request).String for a request with all three first-line fields set and the headers `hs` in the order written -/
def renderRequest (m u p : B) (hs : Headers) : B := wireRequest m u p (renderHeaders hs)

/-- (*Response).String: `proto SP status` where `status` is `code SP text` -/
def renderResponse (proto code text : B) (hs : Headers) : B := wireResponse proto code text (renderHeaders hs)

def bHttp11 : B := [72, 84, 84, 80, 47, 49, 46, 49]

def wfName (k : B) : Bool :=
  !k.isEmpty && k.all (fun c => validFieldByte c || c == 32) && !(k.head? == some 32)
def wfValue (v : B) : Bool := v.all validValueByte
def wfHeader (kv : B × B) : Bool := wfName kv.1 && wfValue kv.2
def wfHeaders (hs : Headers) : Bool := hs.all wfHeader

/-- textproto.CanonicalMIMEHeaderKey of a well-formed name -/
def canonName (k : B) : B := (canonKey k).getD []
/-- what ReadMIMEHeader stores for a well-formed line -/
def parsedHeader (kv : B × B) : B × B := (canonName kv.1, trim kv.2)
def parsedHeaders (hs : Headers) : Headers := hs.map parsedHeader

theorem trimLeft_cons (c : Nat) (l : B) : trimLeft (c :: l) = if isSpTab c then trimLeft l else c :: l := by
  unfold trimLeft
  cases hc : isSpTab c
  · exact List.dropWhile_cons_of_neg (by simp [hc])
  · exact List.dropWhile_cons_of_pos hc

theorem trimRight_cons (c : Nat) (l : B) :
    trimRight (c :: l) = if (trimRight l).isEmpty && isSpTab c then [] else c :: trimRight l := by
  unfold trimRight
  rw [List.reverse_cons, List.dropWhile_append]
  cases h : l.reverse.dropWhile isSpTab with
  | nil => cases hc : isSpTab c <;> simp [hc]
  | cons x t => simp

theorem trimRight_nil : trimRight [] = [] := rfl

theorem trimRight_append_cons (a b : B) (c : Nat) (hc : isSpTab c = false) :
    trimRight (a ++ c :: b) = a ++ c :: trimRight b := by
  induction a with
  | nil => rw [List.nil_append, trimRight_cons]; simp [hc]
  | cons x a ih => rw [List.cons_append, trimRight_cons, ih]; simp

/-- the two trims commute: cutting a header line trims the value's left end after the line's right end was trimmed -/
theorem trim_eq (v : B) : trim v = trimLeft (trimRight v) := by
  unfold trim
  symm
  induction v with
  | nil => rfl
  | cons c l ih =>
    rw [trimLeft_cons, trimRight_cons]
    cases hc : isSpTab c
    · -- `c` stays at the front on both sides
      simp only [Bool.and_false, Bool.false_eq_true, if_false, trimLeft_cons, hc, trimRight_cons]
    · rw [if_pos rfl, ← ih]
      cases he : trimRight l with
      | nil => rfl
      | cons x t => simp only [List.isEmpty_cons, Bool.false_and, Bool.false_eq_true, if_false, trimLeft_cons, hc, if_true]

theorem trim_space_cons (v : B) : trim (32 :: v) = trim v := by
  unfold trim
  rw [trimLeft_cons, if_pos (by decide)]

theorem mem_trimRight {x : Nat} {l : B} (h : x ∈ trimRight l) : x ∈ l := by
  unfold trimRight at h
  have h1 : x ∈ l.reverse.dropWhile isSpTab := List.mem_reverse.mp h
  exact List.mem_reverse.mp ((List.dropWhile_sublist _).subset h1)

theorem wfName_spec {k : B} (h : wfName k = true) :
    (∃ c t, k = c :: t ∧ isSpTab c = false) ∧ (∀ x ∈ k, validFieldByte x = true ∨ x = 32) ∧
      canonKey k = some (canonName k) := by
  simp only [wfName, Bool.and_eq_true, Bool.not_eq_true', List.all_eq_true, Bool.or_eq_true, beq_iff_eq] at h
  obtain ⟨⟨h1, h2⟩, h3⟩ := h
  have hall : ∀ x ∈ k, validFieldByte x = true ∨ x = 32 := h2
  refine ⟨?_, hall, ?_⟩
  · cases k with
    | nil => simp at h1
    | cons c t =>
      refine ⟨c, t, rfl, ?_⟩
      have hc32 : c ≠ 32 := by simpa using h3
      rcases hall c (by simp) with hv | hv
      · by_cases h9 : c = 9
        · subst h9; revert hv; decide
        · simp [isSpTab, hc32, h9]
      · exact absurd hv hc32
  · have e1 : k.isEmpty = false := h1
    have e2 : (k.all fun c => validFieldByte c || c == 32) = true := by
      simp only [List.all_eq_true, Bool.or_eq_true, beq_iff_eq]; exact hall
    unfold canonName canonKey
    simp only [e1, e2, Bool.false_eq_true, if_false, Bool.not_true]
    split <;> rfl

theorem wfName_no (k : B) (h : wfName k = true) (c : Nat) (hc : validFieldByte c = false) (hc' : c ≠ 32) : c ∉ k := by
  intro hm
  rcases (wfName_spec h).2.1 c hm with hv | hv
  · rw [hc] at hv; cases hv
  · exact hc' hv

theorem wfValue_no (v : B) (h : wfValue v = true) (c : Nat) (hc : validValueByte c = false) : c ∉ v := by
  intro hm
  have := (List.all_eq_true.mp h) c hm
  rw [hc] at this; cases this

theorem cutHeader_eq (kv : B) :
    cutHeader kv =
      match cut 58 kv with
      | none => none
      | some (k, v) =>
        match canonKey k with
        | none => none
        | some key => if v.all validValueByte then some (key, trimLeft v) else none := by
  unfold cutHeader cut
  cases kv.contains 58 <;> rfl

theorem cutHeader_wire (kv : B × B) (h : wfHeader kv = true) :
    cutHeader (trim (kv.1 ++ 58 :: kv.2)) = some (parsedHeader kv) := by
  obtain ⟨k, v⟩ := kv
  simp only [wfHeader, Bool.and_eq_true] at h
  obtain ⟨hk, hv⟩ := h
  obtain ⟨⟨c, t, ek, hc⟩, hall, hcan⟩ := wfName_spec hk
  have h58 : (58 : Nat) ∉ k := wfName_no k hk 58 (by decide) (by decide)
  -- trimLeft leaves the line alone, trimRight stops at the colon at the latest
  have tl : trimLeft (k ++ 58 :: v) = k ++ 58 :: v := by
    rw [ek, List.cons_append, trimLeft_cons, hc]; rfl
  have tr : trim (k ++ 58 :: v) = k ++ 58 :: trimRight v := by
    unfold trim; rw [tl]; exact trimRight_append_cons k v 58 (by decide)
  rw [tr]
  have hvv : (trimRight v).all validValueByte = true := by
    rw [List.all_eq_true]
    intro x hx
    exact (List.all_eq_true.mp hv) x (mem_trimRight hx)
  rw [cutHeader_eq, cut_append _ h58]
  simp [hcan, hvv, parsedHeader, trim_eq]

theorem readLine_crlf (l rest : B) (h : 10 ∉ l) :
    Rd.readLine ⟨l ++ 13 :: 10 :: rest, []⟩ = (some l, ⟨rest, []⟩) := by
  have hn : (10 : Nat) ∉ l ++ [13] := by simpa using h
  obtain ⟨h1, h2, h3⟩ := cut_nl_some (cut_append rest hn)
  have e : l ++ 13 :: 10 :: rest = (l ++ [13]) ++ 10 :: rest := by simp
  unfold Rd.readLine
  simp only [readLineAux, e, h1, if_true, h2, h3]
  simp [chompCR]

theorem readCont_nosp (f : Nat) (line : B) (c : Nat) (R : B) (hc : isSpTab c = false) :
    readCont f line ⟨c :: R, []⟩ = (trim line, ⟨c :: R, []⟩) := by
  unfold readCont
  by_cases o : optimistic (c :: R) = true
  · simp only [o, if_true]
  · simp only [o, Bool.false_eq_true, if_false]
    cases f with
    | zero => rfl
    | succ f =>
      have hs : Rd.skipSpace ⟨c :: R, []⟩ = (0, ⟨c :: R, []⟩) := by
        simp [Rd.skipSpace, skipAux, List.takeWhile, List.dropWhile, hc]
      simp only [contLoop, hs, if_true]

theorem wireBlock_head (hs : Headers) (hw : wfHeaders hs = true) (rest : B) :
    ∃ c R, wireBlock hs ++ 13 :: 10 :: rest = c :: R ∧ isSpTab c = false := by
  cases hs with
  | nil => exact ⟨13, 10 :: rest, rfl, by decide⟩
  | cons kv hs =>
    have hkv : wfHeader kv = true := by
      simp only [wfHeaders, List.all_cons, Bool.and_eq_true] at hw; exact hw.1
    simp only [wfHeader, Bool.and_eq_true] at hkv
    obtain ⟨⟨c, t, ek, hc⟩, _, _⟩ := wfName_spec hkv.1
    refine ⟨c, t ++ 58 :: (kv.2 ++ [13, 10]) ++ ((hs.map wireHeader).flatten ++ 13 :: 10 :: rest), ?_, hc⟩
    simp [wireBlock, wireHeader, ek]

theorem wfHeader_no_lf {kv : B × B} (h : wfHeader kv = true) : 10 ∉ kv.1 ++ 58 :: kv.2 := by
  simp only [wfHeader, Bool.and_eq_true] at h
  simp only [List.mem_append, List.mem_cons, not_or]
  exact ⟨wfName_no kv.1 h.1 10 (by decide) (by decide), by decide, wfValue_no kv.2 h.2 10 (by decide)⟩

theorem hdrLoop_line (f : Nat) (acc : Headers) (kv : B × B) (h : wfHeader kv = true) (c : Nat) (R : B)
    (hc : isSpTab c = false) :
    hdrLoop (f + 1) acc ⟨wireHeader kv ++ c :: R, []⟩ = hdrLoop f (parsedHeader kv :: acc) ⟨c :: R, []⟩ := by
  have e : wireHeader kv ++ c :: R = (kv.1 ++ 58 :: kv.2) ++ 13 :: 10 :: c :: R := by simp [wireHeader]
  rw [e, hdrLoop, readLine_crlf _ _ (wfHeader_no_lf h)]
  simp [readCont_nosp f _ c R hc, cutHeader_wire kv h]

theorem hdrLoop_wire (hs : Headers) (hw : wfHeaders hs = true) (f : Nat) (hf : hs.length < f)
    (acc : Headers) (rest : B) :
    hdrLoop f acc ⟨wireBlock hs ++ 13 :: 10 :: rest, []⟩ = some (acc.reverse ++ parsedHeaders hs, ⟨rest, []⟩) := by
  induction hs generalizing f acc with
  | nil =>
    cases f with
    | zero => omega
    | succ f =>
      have := readLine_crlf [] rest (by simp)
      simp only [List.nil_append] at this
      simp [hdrLoop, wireBlock, this, parsedHeaders]
  | cons kv hs ih =>
    cases f with
    | zero => omega
    | succ f =>
      have hw' : wfHeader kv = true ∧ wfHeaders hs = true := by
        simpa [wfHeaders, List.all_cons, Bool.and_eq_true] using hw
      obtain ⟨c, R, eR, hc⟩ := wireBlock_head hs hw'.2 rest
      have e : wireBlock (kv :: hs) ++ 13 :: 10 :: rest = wireHeader kv ++ (wireBlock hs ++ 13 :: 10 :: rest) := by
        simp [wireBlock]
      rw [e, eR, hdrLoop_line f acc kv hw'.1 c R hc, ← eR, ih hw'.2 f (by simp at hf; omega)]
      simp [parsedHeaders]

theorem readMIME_wire (hs : Headers) (hw : wfHeaders hs = true) (f : Nat) (hf : hs.length < f) (rest : B) :
    readMIME f ⟨wireBlock hs ++ 13 :: 10 :: rest, []⟩ = some (parsedHeaders hs, ⟨rest, []⟩) := by
  have := hdrLoop_wire hs hw f hf [] rest
  obtain ⟨c, R, eR, hc⟩ := wireBlock_head hs hw rest
  rw [eR] at this ⊢
  unfold readMIME
  simp only [Rd.ensure, ensureAux, hc, Bool.false_eq_true, if_false]
  simpa using this

theorem readHeader_wire (line : B) (hl : 10 ∉ line) (hs : Headers) (hw : wfHeaders hs = true)
    (f : Nat) (hf : hs.length < f) (rest : B) :
    readHeader f ⟨wireMessage line hs ++ rest, []⟩ = some (line, parsedHeaders hs, ⟨rest, []⟩) := by
  have e : wireMessage line hs ++ rest = line ++ 13 :: 10 :: (wireBlock hs ++ 13 :: 10 :: rest) := by
    simp [wireMessage]
  rw [e]
  unfold readHeader
  rw [readLine_crlf _ _ hl]
  simp only [readMIME_wire hs hw f hf rest]

theorem wfHeaders_render (hs : Headers) (h : wfHeaders hs = true) : wfHeaders (renderHeaders hs) = true := by
  simp only [wfHeaders, renderHeaders, List.all_map, List.all_eq_true] at h ⊢
  intro kv hkv
  have := h kv hkv
  simp only [wfHeader, Bool.and_eq_true, Function.comp] at this ⊢
  refine ⟨this.1, ?_⟩
  simp only [wfValue, List.all_cons, Bool.and_eq_true]
  exact ⟨by decide, this.2⟩

theorem parsedHeaders_render (hs : Headers) : parsedHeaders (renderHeaders hs) = parsedHeaders hs := by
  simp only [parsedHeaders, renderHeaders, List.map_map]
  apply List.map_congr_left
  intro kv _
  simp [parsedHeader, Function.comp, trim_space_cons]

theorem upgradeRequest_render (v : B) (st : Bool) (h : trimString (bSocketaceSlash ++ v) = bSocketaceSlash ++ v) :
    upgradeRequest v st = renderRequest Gen.srvUpgradeMethod [47] bHttp11
      ([(bConnection, Gen.srvUpgradeConnection)] ++ (if st then [(bSecurity, Gen.capabilityStartTls)] else []) ++
        [(bUpgrade, bSocketaceSlash ++ v), (Gen.userAgent, bSocketaceSlash ++ Gen.unknownVersion)]) := by
  unfold upgradeRequest
  simp only [h]
  -- the other header values are literals or regenerated constants (`Gen.srvUpgradeMethod`, `Gen.srvUpgradeConnection`,
  -- `Gen.capabilityStartTls`, `Gen.userAgent`): the two renderings compute to the same bytes around `v`
  cases st <;> rfl

theorem length_le_wireBlock (hs : Headers) : hs.length ≤ (wireBlock hs).length := by
  induction hs with
  | nil => simp
  | cons kv hs ih =>
    have : wireBlock (kv :: hs) = wireHeader kv ++ wireBlock hs := by simp [wireBlock]
    rw [this, List.length_append, List.length_cons]
    have : 1 ≤ (wireHeader kv).length := by simp [wireHeader]; omega
    omega

theorem length_lt_wireMessage (line : B) (hs : Headers) : hs.length < (wireMessage line hs).length := by
  have := length_le_wireBlock hs
  simp only [wireMessage, List.length_append, List.length_cons]
  omega

end SA.Handshake
