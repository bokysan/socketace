/-
  SA.Proofs.DnsServerProv — provenance of the bytes in a session's queues along ANY trace (no assumption on the peer):
  the in-buffer is a concatenation of payloads of packets of the trace, the future list holds payloads of packets of the
  trace, the out-queue holds chunks of Writes of the trace.
-/
import SA.Model.DnsSessTrace
import SA.Proofs.DnsServer

namespace SA.DnsServer

/-- a concatenation of members of `P` -/
def Cat (P : List (List Nat)) (b : List Nat) : Prop := ∃ L : List (List Nat), b = L.flatten ∧ ∀ x ∈ L, x ∈ P

theorem Cat.snoc {P : List (List Nat)} {b d : List Nat} (h : Cat P b) (hd : d ∈ P) : Cat P (b ++ d) := by
  obtain ⟨L, e, hL⟩ := h
  refine ⟨L ++ [d], by simp [e], fun x hx => ?_⟩
  rcases List.mem_append.mp hx with hx | hx
  · exact hL x hx
  · rw [List.mem_singleton.mp hx]; exact hd

/-- the in-queue holds payloads from `P` only: released in order, or parked -/
structure InProv (P : List (List Nat)) (i : InQ) : Prop where
  buf : Cat P i.buf
  fut : ∀ f ∈ i.future, f.2 ∈ P

/-- `P` = payloads seen so far, `W` = chunks written so far -/
structure Prov (P W : List (List Nat)) (q : QPair) : Prop where
  inq : InProv P q.1
  out : ∀ c ∈ q.2.out, c.2 ∈ W

theorem Prov.mono {P W P' W' : List (List Nat)} {q : QPair} (h : Prov P W q) (hP : ∀ x ∈ P, x ∈ P') (hW : ∀ x ∈ W, x ∈ W') :
    Prov P' W' q := by
  obtain ⟨⟨⟨L, h1, h2⟩, h3⟩, h4⟩ := h
  exact ⟨⟨⟨L, h1, fun x hx => hP x (h2 x hx)⟩, fun f hf => hP _ (h3 f hf)⟩, fun c hc => hW _ (h4 c hc)⟩

theorem drain_prov {P : List (List Nat)} : ∀ (fuel : Nat) {i : InQ}, InProv P i → InProv P (drainFuture fuel i)
  | 0, _, h => h
  | fuel + 1, i, h => by
    unfold drainFuture
    cases hf : i.future.find? (fun f => f.1 == i.next) with
    | none => exact h
    | some f =>
      exact drain_prov fuel ⟨h.buf.snoc (h.fut f (List.mem_of_find?_eq_some hf)),
        fun g hg => h.fut g (List.mem_of_mem_eraseP hg)⟩

theorem append_prov {P : List (List Nat)} {i i' : InQ} (h : InProv P i) {pkt : Option (Nat × List Nat)}
    (ha : i.append pkt = some i') (hp : ∀ p, pkt = some p → p.2 ∈ P) : InProv P i' := by
  cases pkt with
  | none => cases ha; exact h
  | some p =>
    obtain ⟨seq, data⟩ := p
    have hd : data ∈ P := hp _ rfl
    cases hc : i.acked.contains seq with
    | true => rw [InQ.append_dup hc] at ha; cases ha; exact h
    | false =>
      by_cases h2 : seq = i.next
      · rw [InQ.append_next hc h2] at ha
        cases ha
        have hD := drain_prov i.future.length
          (i := { i with buf := i.buf ++ data, next := u16 (i.next + 1), acked := i.acked ++ [seq] }) ⟨h.buf.snoc hd, h.fut⟩
        dsimp only
        split
        · exact ⟨hD.buf, hD.fut⟩
        · exact hD
      · rw [InQ.append_far hc h2] at ha
        split at ha <;> cases ha
        exact ⟨h.buf, fun f hf => (List.mem_append.mp hf).elim (h.fut f) fun e => List.mem_singleton.mp e ▸ hd⟩

theorem foldl_eraseP_mem {c : Nat × List Nat} : ∀ (acked : List Nat) (out : List (Nat × List Nat)),
    c ∈ acked.foldl (fun o a => o.eraseP (fun c => c.1 == a)) out → c ∈ out
  | [], _, h => h
  | _ :: r, _, h => List.mem_of_mem_eraseP (foldl_eraseP_mem r _ h)

theorem clean_mem {o : OutQ} {c : Nat × List Nat} (h : c ∈ o.clean.out) : c ∈ o.out :=
  foldl_eraseP_mem _ _ h

theorem updateAcked_mem {o : OutQ} {v : Nat} {c : Nat × List Nat} (h : c ∈ (o.updateAcked v).out) : c ∈ o.out := by
  unfold OutQ.updateAcked at h
  split at h
  · exact h
  · exact clean_mem (o := { o with acked := o.acked ++ [v] }) h

theorem addChunks_mem {c : Nat × List Nat} : ∀ (cs : List (List Nat)) (o : OutQ), c ∈ (o.addChunks cs).out →
    c ∈ o.out ∨ c.2 ∈ cs
  | [], _, h => Or.inl h
  | x :: cs, o, h => by
    rcases addChunks_mem cs _ h with h | h
    · simp only [List.mem_append, List.mem_singleton] at h
      rcases h with h | h
      · exact Or.inl h
      · subst h; exact Or.inr (by simp)
    · exact Or.inr (List.mem_cons_of_mem _ h)

theorem qstep_prov {P W : List (List Nat)} {q : QPair} (h : Prov P W q) (e : SEv) :
    Prov (P ++ payloadsOf [e]) (W ++ chunksOf [e]) (qstep q e) := by
  cases e with
  | pkt a p =>
    have h' : Prov (P ++ payloadsOf [.pkt a p]) (W ++ chunksOf [.pkt a p]) q :=
      h.mono (fun x hx => List.mem_append_left _ hx) (fun x hx => List.mem_append_left _ hx)
    simp only [qstep, pktStep]
    cases ha : q.1.append p with
    | none => exact ⟨h'.inq, fun c hc => h'.out c (updateAcked_mem hc)⟩
    | some i' =>
      exact ⟨append_prov h'.inq ha (by rintro x rfl; simp [payloadsOf]),
        fun c hc => h'.out c (updateAcked_mem (clean_mem hc))⟩
  | wr d cs =>
    simp only [qstep, payloadsOf, chunksOf, List.append_nil]
    refine ⟨h.inq, fun c hc => ?_⟩
    rcases addChunks_mem cs _ hc with hc | hc
    · exact List.mem_append_left _ (h.out c hc)
    · exact List.mem_append_right _ hc

theorem payloadsOf_cons (e : SEv) (r : List SEv) : payloadsOf (e :: r) = payloadsOf [e] ++ payloadsOf r := by
  cases e with
  | pkt a p => cases p <;> simp [payloadsOf]
  | wr d cs => simp [payloadsOf]

theorem chunksOf_cons (e : SEv) (r : List SEv) : chunksOf (e :: r) = chunksOf [e] ++ chunksOf r := by
  cases e <;> simp [chunksOf]

theorem trace_prov : ∀ (tr : List SEv) (P W : List (List Nat)) (q : QPair), Prov P W q →
    Prov (P ++ payloadsOf tr) (W ++ chunksOf tr) (tr.foldl qstep q)
  | [], P, W, q, h => by simpa [payloadsOf, chunksOf] using h
  | e :: r, P, W, q, h => by
    have := trace_prov r _ _ _ (qstep_prov h e)
    rw [payloadsOf_cons, chunksOf_cons, ← List.append_assoc, ← List.append_assoc]
    exact this

theorem init_prov : Prov [] [] (({} : InQ), ({} : OutQ)) :=
  ⟨⟨⟨[], rfl, by simp⟩, by simp⟩, by simp⟩

end SA.DnsServer
