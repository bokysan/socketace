/-
  SA.Proofs.TlsConfig — what the definitions of SA.Model.TlsConfig do, for SA.Props.C05*.

  Host names: the name each derivation gives for `h:p`.  cert.go: a configuration that loads is the record `loaded`
  with at most one more field set (`config_eq`, `client_eq`, `server_eq`).  Sessions: what `clientAccepts` /
  `serverAdmits` check; `tlsSession` (crypto/tls between two configurations) and `handed` (what a kind carries into the
  handshake) name what `established` and `sessionWith` decide.  Histories: with a new object per call and no session cache every attempt behaves as it does alone.
-/
import SA.Model.TlsConfig
namespace SA.TlsConfig

theorem splitLastColon_none {p : Name} (hp : ∀ c ∈ p, c ≠ ':') : splitLastColon p = none := by
  induction p with
  | nil => rfl
  | cons c cs ih =>
    have h1 : c ≠ ':' := hp c (by simp)
    have h2 : ∀ d ∈ cs, d ≠ ':' := fun d hd => hp d (by simp [hd])
    simp [splitLastColon, ih h2, h1]

theorem splitLastColon_append (h p : Name) (hp : ∀ c ∈ p, c ≠ ':') :
    splitLastColon (h ++ ':' :: p) = some (h, p) := by
  induction h with
  | nil => simp [splitLastColon, splitLastColon_none hp]
  | cons c cs ih => simp [splitLastColon, ih]

/-- a host label: no ':' and no brackets -/
def Plain (s : Name) : Prop := ∀ c ∈ s, c ≠ ':' ∧ c ≠ '[' ∧ c ≠ ']'

theorem plain_of_digits {p : Name} (hp : p.all isDigit = true) : Plain p := by
  intro c hc
  have := List.all_eq_true.mp hp c hc
  simp only [isDigit, Bool.and_eq_true, decide_eq_true_eq] at this
  refine ⟨?_, ?_, ?_⟩ <;> (intro e; subst e; revert this; decide)

theorem contains_false_of {s : Name} {x : Char} (h : ∀ c ∈ s, c ≠ x) : s.contains x = false := by
  simpa using fun hx => h x hx rfl

theorem splitHostPort_hostport (h p : Name) (hh : Plain h) (hp : Plain p) :
    splitHostPort (h ++ ':' :: p) = some (h, p) := by
  have hpc : ∀ c ∈ p, c ≠ ':' := fun c hc => (hp c hc).1
  have hhead : (h ++ ':' :: p).head? ≠ some '[' := by
    cases h with
    | nil => simp
    | cons c cs => simpa using (hh c (by simp)).2.1
  have hb1 : h.contains ':' = false := contains_false_of (fun c hc => (hh c hc).1)
  have hall : ∀ c ∈ h ++ ':' :: p, c ≠ '[' ∧ c ≠ ']' := by
    intro c hc
    rcases List.mem_append.mp hc with h1 | h1
    · exact (hh c h1).2
    · rcases List.mem_cons.mp h1 with h2 | h2
      · subst h2; decide
      · exact (hp c h2).2
  have hb2 : (h ++ ':' :: p).contains '[' = false := contains_false_of fun c hc => (hall c hc).1
  have hb3 : (h ++ ':' :: p).contains ']' = false := contains_false_of fun c hc => (hall c hc).2
  simp only [splitHostPort, splitLastColon_append h p hpc, if_neg hhead, hb1, hb2, hb3]
  simp

theorem startTlsName_hostport (h p : Name) (hh : Plain h) (hp : Plain p) :
    startTlsName true (h ++ ':' :: p) = h := by
  simp [startTlsName, splitHostPort_hostport h p hh hp]

/-- a host given without a port is its own name (SplitHostPort fails: "missing port") -/
theorem startTlsName_noport {h : Name} (hh : ∀ c ∈ h, c ≠ ':') : startTlsName true h = h := by
  simp [startTlsName, splitHostPort, splitLastColon_none hh]

theorem dialHostname_hostport (h p : Name) (hp : ∀ c ∈ p, c ≠ ':') : dialHostname (h ++ ':' :: p) = h := by
  simp [dialHostname, splitLastColon_append h p hp]

theorem urlHostname_hostport (h p : Name) (hh : Plain h) (hp : p.all isDigit = true) :
    urlHostname (h ++ ':' :: p) = h := by
  have hpc : ∀ c ∈ p, c ≠ ':' := fun c hc => (plain_of_digits hp c hc).1
  have hhead : h.head? ≠ some '[' := by
    cases h with
    | nil => simp
    | cons c cs => simpa using (hh c (by simp)).2.1
  simp only [urlHostname, splitLastColon_append h p hpc, hp, if_true]
  rw [if_neg]
  intro hc
  exact hhead hc.1

/-- the name a verifying kind derives from `h:p` (plain `h`, numeric `p`) is `h`, when startTls strips the port and
    Socket.Connect names the URL's host; only the TLS socket, which falls back to what tls.Dial makes of the resolved
    address when the URL names no host, can see anything else -/
theorem nameFor_hostport {F : Facts} (hs : F.stripsPort = true) (hd : F.setsHostname = true) (k : Kind)
    (hk : k ≠ .stdioTls) (h p r : Name) (hh : Plain h) (hp : p.all isDigit = true) :
    nameFor F k (h ++ ':' :: p) r = if k = .socketTls ∧ h = [] then dialHostname r else h := by
  have hu := urlHostname_hostport h p hh hp
  cases k with
  | stdioTls => exact absurd rfl hk
  | startTls => simpa [nameFor, hs] using startTlsName_hostport h p hh (plain_of_digits hp)
  | httpTls => simpa [nameFor] using hu
  | socketTls =>
    simp only [nameFor, socketTlsName, hu, hd, Bool.true_and, true_and]
    cases h <;> rfl

/-- a file option whose file cannot be read -/
theorem readSrc_unreadable {s : Src} (e : ErrClass) (h : s.file = some none) : readSrc s e = .err e := by
  simp [readSrc, h]

/-- the CA pool the `ca-certificate[-file]` option denotes (none: absent or unusable) -/
def caPool (o : Opts) : Option (List String) :=
  match readSrc o.ca .cafile with
  | .ok b => parseCAs b
  | _ => none

/-- the three GetTlsConfig read once: each is Config.GetTlsConfig and then at most one field -/
theorem configGetTlsConfig_ok_iff {o : Opts} {c : TlsCfg} :
    configGetTlsConfig o = .ok c ↔ ∃ crt, getX509KeyPair o = .ok crt ∧ addCaCertificates o { certs := crt.toList } = .ok c := by
  unfold configGetTlsConfig
  cases getX509KeyPair o <;> simp

theorem clientGetTlsConfig_ok_iff {o : Opts} {c : TlsCfg} :
    clientGetTlsConfig o = .ok c ↔
      ∃ c0, configGetTlsConfig o = .ok c0 ∧ c = if o.flag then { c0 with insecureSkipVerify := true } else c0 := by
  unfold clientGetTlsConfig
  cases configGetTlsConfig o <;> simp
  split <;> simp [eq_comm]

theorem serverGetTlsConfig_ok_iff {g : Bool} {o : Opts} {c : TlsCfg} :
    serverGetTlsConfig g o = .ok c ↔
      ∃ c0, configGetTlsConfig o = .ok c0 ∧
        c = if g && o.flag then { c0 with clientAuth := .requireAndVerifyClientCert } else c0 := by
  unfold serverGetTlsConfig
  cases configGetTlsConfig o <;> simp
  · split <;> simp [eq_comm]
  · split <;> simp

/-- ServerConfig.GetTlsConfig panics where Config.GetTlsConfig does; the inverted guard (`err != nil`) adds the
    dereference of the nil configuration an error leaves behind -/
theorem serverGetTlsConfig_panic_iff {g : Bool} {o : Opts} :
    serverGetTlsConfig g o = .panic ↔
      configGetTlsConfig o = .panic ∨ (g = false ∧ o.flag = true ∧ ∃ e, configGetTlsConfig o = .err e) := by
  unfold serverGetTlsConfig
  cases configGetTlsConfig o <;> cases g <;> cases o.flag <;> simp

/-- the pool Config.addCaCertificates builds from the CA option, on top of what the pool starts from -/
def builtPool (o : Opts) : Option (List String) := (caPool o).map (poolSeed ++ ·)

/-- `hseed`: the regenerated shape of addCaCertificates (`SA.Gen.caPoolStartsEmpty`: the pool starts empty); supplied by
    `gen_poolSeed` in SA.Props.C05, so that a change of the shape breaks the theorems that rest on it and nothing else -/
theorem builtPool_eq (hseed : poolSeed = []) (o : Opts) : builtPool o = caPool o := by
  simp [builtPool, hseed]

/-- what Config.GetTlsConfig yields when it loads: the certificate of the key pair, and the one pool in both fields -/
def loaded (crt : Option String) (o : Opts) : TlsCfg :=
  { certs := crt.toList, rootCAs := builtPool o, clientCAs := builtPool o }

/-- a configuration that loads is `loaded`, with at most one more field set: the facts about a field are read off by `rfl` -/
theorem config_eq {o : Opts} {c : TlsCfg} (h : configGetTlsConfig o = .ok c) :
    ∃ crt b, getX509KeyPair o = .ok crt ∧ readSrc o.ca .cafile = .ok b ∧ c = loaded crt o := by
  obtain ⟨crt, hk, ha⟩ := configGetTlsConfig_ok_iff.mp h
  unfold addCaCertificates addCaCertificatesFrom at ha
  unfold loaded builtPool caPool
  cases hr : readSrc o.ca .cafile with
  | err e => simp [hr] at ha
  | panic => simp [hr] at ha
  | ok b =>
    refine ⟨crt, b, hk, rfl, ?_⟩
    simp only [hr] at ha
    by_cases hb : b = .nil
    · simp only [hb, if_true] at ha
      cases ha
      simp [hb, parseCAs]
    · simp only [hb, if_false] at ha
      cases hp : parseCAs b with
      | none => simp [hp] at ha
      | some pool => simp only [hp] at ha; cases ha; simp [hp]

theorem client_eq {o : Opts} {c : TlsCfg} (h : clientGetTlsConfig o = .ok c) :
    ∃ crt, c = { loaded crt o with insecureSkipVerify := o.flag } := by
  obtain ⟨c0, h0, rfl⟩ := clientGetTlsConfig_ok_iff.mp h
  obtain ⟨crt, _, -, -, rfl⟩ := config_eq h0
  exact ⟨crt, by cases o.flag <;> rfl⟩

theorem server_eq {g : Bool} {o : Opts} {c : TlsCfg} (h : serverGetTlsConfig g o = .ok c) :
    ∃ crt, c = { loaded crt o with
      clientAuth := if g && o.flag then .requireAndVerifyClientCert else .noClientCert } := by
  obtain ⟨c0, h0, rfl⟩ := serverGetTlsConfig_ok_iff.mp h
  obtain ⟨crt, _, -, -, rfl⟩ := config_eq h0
  exact ⟨crt, by cases (g && o.flag) <;> rfl⟩

theorem clientCfgFor_ok_iff {sites : List Site} {k : Kind} {o : Opts} {conf : TlsCfg} :
    clientCfgFor sites k o = .ok conf ↔
    ∃ c, clientGetTlsConfig o = .ok c ∧
      conf = if forcesInsecure sites k then { c with insecureSkipVerify := true } else c := by
  unfold clientCfgFor
  cases clientGetTlsConfig o <;> simp
  split <;> simp [eq_comm]

/-- what the crypto/tls client checks: a name to match, a chain to RootCAs, validity now, the name -/
theorem clientAccepts_of_verified {X : X509} {cfg : TlsCfg} {peer : String} (hn : cfg.serverName ≠ [])
    (hc : X.chains cfg.rootCAs peer = true) (hv : X.validNow peer = true) (hm : X.matchesName cfg.serverName peer = true) :
    clientAccepts X cfg peer = true := by
  simp [clientAccepts, hn, hc, hv, hm]

/-- … and with verification on nothing else is accepted -/
theorem clientAccepts_verifying {X : X509} {cfg : TlsCfg} {peer : String} (h : clientAccepts X cfg peer = true)
    (hi : cfg.insecureSkipVerify = false) :
    cfg.serverName ≠ [] ∧ X.chains cfg.rootCAs peer = true ∧ X.validNow peer = true ∧
      X.matchesName cfg.serverName peer = true := by
  simpa [clientAccepts, hi, and_assoc] using h

theorem serverAdmits_noClientCert {X : X509} {cfg : TlsCfg} {presented : Option String}
    (ha : cfg.clientAuth = .noClientCert) : serverAdmits X cfg presented = true := by
  unfold serverAdmits
  rw [ha]

theorem serverAdmits_required_iff {X : X509} {cfg : TlsCfg} {presented : Option String}
    (ha : cfg.clientAuth = .requireAndVerifyClientCert) :
    serverAdmits X cfg presented = true ↔
      ∃ c, presented = some c ∧ X.chains cfg.clientCAs c = true ∧ X.validNow c = true := by
  unfold serverAdmits
  rw [ha]
  cases presented <;> simp

/-- crypto/tls between the configuration the client hands over and what the server side loads: the server presents its
    first certificate, the client its first when asked -/
def tlsSession (X : X509) (ccfg : TlsCfg) : Res TlsCfg → Bool
  | .ok scfg =>
    match scfg.certs.head? with
    | none => false
    | some peer => clientAccepts X ccfg peer && serverAdmits X scfg ccfg.certs.head?
  | _ => false

/-- what a kind carries into the handshake, given the client configuration cert.go loaded -/
def handed (F : Facts) (k : Kind) (hostport resolved : Name) (c : TlsCfg) : TlsCfg :=
  { (if forcesInsecure F.sites k then { c with insecureSkipVerify := true } else c) with
      serverName := nameFor F k hostport resolved }

theorem established_eq (X : X509) (F : Facts) (k : Kind) (hostport resolved : Name) (co so : Opts) :
    established X F k hostport resolved co so =
      match clientGetTlsConfig co with
      | .ok c => tlsSession X (handed F k hostport resolved c) (serverGetTlsConfig F.guardErrNil so)
      | _ => false := by
  unfold established clientCfgFor tlsSession handed
  cases clientGetTlsConfig co with
  | ok c => cases forcesInsecure F.sites k <;> cases serverGetTlsConfig F.guardErrNil so <;> rfl
  | _ => rfl

theorem sessionWith_some (X : X509) (F : Facts) (a : Attempt) (c : TlsCfg) :
    sessionWith X F a (some c) =
      (a.up && tlsSession X { c with serverName := effName a.kind a.hostport a.resolved c }
        (serverGetTlsConfig F.guardErrNil a.so)) := by
  unfold sessionWith tlsSession
  cases serverGetTlsConfig F.guardErrNil a.so <;> rfl

/-- no STARTTLS on offer: no certificate to present -/
theorem tlsSession_not_offered (X : X509) (F : Facts) (c : TlsCfg) {so : Opts} (h : offersStartTls F so = false) :
    tlsSession X c (serverGetTlsConfig F.guardErrNil so) = false := by
  unfold offersStartTls at h
  unfold tlsSession
  cases hs : serverGetTlsConfig F.guardErrNil so with
  | ok scfg =>
    rw [hs] at h
    have : scfg.certs = [] := by simpa using h
    simp [this]
  | _ => rfl

/-- `established` read backwards, for soundness (a session ⇒ each side's verification passed, of these configurations);
    completeness and the histories compute forwards with `established_eq` -/
theorem established_iff {X : X509} {F : Facts} {k : Kind} {hostport resolved : Name} {co so : Opts} :
    established X F k hostport resolved co so = true ↔
    ∃ ccfg scfg peer, clientCfgFor F.sites k co = .ok ccfg ∧ serverGetTlsConfig F.guardErrNil so = .ok scfg ∧
      scfg.certs.head? = some peer ∧
      clientAccepts X { ccfg with serverName := nameFor F k hostport resolved } peer = true ∧
      serverAdmits X scfg ccfg.certs.head? = true := by
  unfold established
  cases clientCfgFor F.sites k co with
  | ok ccfg =>
    cases serverGetTlsConfig F.guardErrNil so with
    | ok scfg => simp; cases scfg.certs.head? <;> simp
    | _ => simp
  | _ => simp

/-- with a new object per call, an attempt neither reads nor changes the manager's state -/
theorem attemptOn_fresh (F : Facts) (o : Opts) (a : Attempt) (m : Mgr) :
    attemptOn F true o a m = ((attemptOn F true o a none).1, m) := by
  unfold attemptOn mgrGet
  cases a.asks F <;> simp
  cases clientGetTlsConfig o <;> simp

theorem sessionWithT_noCache (X : X509) (F : Facts) (hc : F.sessionCache = none) (a : Attempt) (c : Option TlsCfg)
    (ts : List Ticket) : sessionWithT X F a c ts = (sessionWith X F a c, ts) := by
  unfold sessionWithT
  rw [hc]

theorem runHist_cons_fresh (X : X509) (F : Facts) (hc : F.sessionCache = none) (fo : Bool) (s : Step) (ss : List Step)
    (m : Mgr) (ts : List Ticket) :
    runHist X F true fo (s :: ss) m ts =
      some (alone X F s.co s.att) ::
        (if fo && connectsWith X F s.att (alone X F s.co s.att).cfg then ss.map (fun _ => none)
         else runHist X F true fo ss m ts) := by
  have hf := attemptOn_fresh F s.co s.att (if s.newMgr then none else m)
  have hs := sessionWithT_noCache X F hc s.att (attemptOn F true s.co s.att none).1 ts
  have hm : (if s.newMgr = true then m else if s.newMgr = true then none else m) = m := by
    cases s.newMgr <;> simp
  simp only [runHist, hf, hs, alone, Bool.and_not_self, Bool.false_eq_true, if_false, hm]
  rfl

theorem runHist_fresh (X : X509) (F : Facts) (hc : F.sessionCache = none) (fo : Bool) :
    ∀ (ss : List Step) (m : Mgr) (ts : List Ticket) (i : Nat) (out : Outcome),
      (runHist X F true fo ss m ts)[i]? = some (some out) →
      ∃ s, ss[i]? = some s ∧ out = alone X F s.co s.att := by
  intro ss
  induction ss with
  | nil => intro m ts i out h; simp [runHist] at h
  | cons s ss ih =>
    intro m ts i out h
    rw [runHist_cons_fresh X F hc] at h
    cases i with
    | zero =>
      simp only [List.getElem?_cons_zero, Option.some.injEq] at h
      exact ⟨s, rfl, h.symm⟩
    | succ i =>
      simp only [List.getElem?_cons_succ] at h
      split at h
      · simp only [List.getElem?_map] at h
        cases hh : ss[i]? <;> simp [hh] at h
      · obtain ⟨b, hb, hout⟩ := ih _ _ i out h
        exact ⟨b, by simpa using hb, hout⟩

theorem runHist_seq_fresh (X : X509) (F : Facts) (hc : F.sessionCache = none) :
    ∀ (ss : List Step) (m : Mgr) (ts : List Ticket),
      runHist X F true false ss m ts = ss.map (fun s => some (alone X F s.co s.att)) := by
  intro ss
  induction ss with
  | nil => intro m ts; rfl
  | cons s ss ih =>
    intro m ts
    rw [runHist_cons_fresh X F hc, ih]
    simp

theorem kindWrites_eq_handed (F : Facts) (k : Kind) (hostport resolved : Name) (c : TlsCfg) (hn : c.serverName = []) :
    { kindWrites F k hostport c with serverName := effName k hostport resolved (kindWrites F k hostport c) } =
      handed F k hostport resolved c := by
  -- the object after the site that may force verification off: still unnamed
  unfold kindWrites handed
  generalize hc1 : (if forcesInsecure F.sites k then { c with insecureSkipVerify := true } else c) = c1
  have hn1 : c1.serverName = [] := by rw [← hc1]; split <;> exact hn
  cases k with
  | startTls =>
    -- the name written is the name verified, empty or not
    cases hz : (startTlsName F.stripsPort hostport).isEmpty <;> simp [effName, nameFor, hz]
    simpa using hz
  | httpTls => simp [effName, nameFor, hn1]
  | stdioTls => simp [effName, nameFor, hn1]
  | socketTls =>
    -- Socket.Connect names the URL's host when it has one and the code says so; otherwise tls.Dial derives the name
    cases hs : F.setsHostname <;> cases hu : (urlHostname hostport).isEmpty <;>
      simp [effName, nameFor, socketTlsName, hn1, hs, hu]

theorem alone_cfg {X : X509} {F : Facts} {o : Opts} {a : Attempt} {c : TlsCfg} (h : (alone X F o a).cfg = some c) :
    ∃ c0, clientGetTlsConfig o = .ok c0 ∧ c = kindWrites F a.kind a.hostport c0 := by
  simp only [alone, attemptOn, mgrGet, if_true] at h
  split at h
  · cases hc : clientGetTlsConfig o <;> simp [hc] at h
    exact ⟨_, rfl, h.symm⟩
  · cases h

theorem alone_est (X : X509) (F : Facts) (o : Opts) (a : Attempt) :
    (alone X F o a).est = (a.up && established X F a.kind a.hostport a.resolved o a.so) := by
  rw [established_eq]
  unfold alone attemptOn mgrGet
  simp only [if_true]
  cases hc : clientGetTlsConfig o with
  | err e => cases a.asks F <;> simp [sessionWith]
  | panic => cases a.asks F <;> simp [sessionWith]
  | ok c =>
    have hn : c.serverName = [] := by obtain ⟨crt, rfl⟩ := client_eq hc; rfl
    cases hasks : a.asks F with
    | true => simp only [if_true]; rw [sessionWith_some, kindWrites_eq_handed F a.kind a.hostport a.resolved c hn]
    | false =>
      -- only StartTLS can fail to ask: the peer is down or offers no STARTTLS
      simp only [Bool.false_eq_true, if_false, sessionWith]
      cases hkind : a.kind <;> simp [Attempt.asks, hkind] at hasks
      cases hup : a.up with
      | false => rfl
      | true => rw [tlsSession_not_offered X F _ (hasks hup)]; rfl

end SA.TlsConfig
