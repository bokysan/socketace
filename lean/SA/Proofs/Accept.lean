/-
  The accept-loop scheduler of SA.Model.Accept (C02, C15).  `astep_some` lists its enabled steps; what the loop preserves
  is one case analysis on that list, carried through a schedule by `arun_skipRun`.
-/
import SA.Model.Accept
import SA.Proofs.Run
namespace SA.Accept

theorem arun_skipRun (spawn : Bool) (stalled : Nat → Bool) : SkipRun (astep spawn stalled) (arun spawn stalled) :=
  ⟨fun _ => rfl, fun s a _ => by rw [arun]; cases astep spawn stalled s a <;> rfl⟩

/-- the enabled steps of the scheduler, one by one: what `astep` is, read backwards -/
inductive AStep (spawn : Bool) (stalled : Nat → Bool) (s : ASt) : AAct → ASt → Prop
  | arrive (id : Nat) : AStep spawn stalled s (.arrive id) { s with pending := s.pending ++ [id] }
  | accept (p : Nat) (rest : List Nat) (hl : s.loop = none) (hp : s.pending = p :: rest) :
      AStep spawn stalled s .accept
        (if spawn then { s with pending := rest, running := p :: s.running } else { s with pending := rest, loop := some p })
  | inline (id : Nat) (hst : stalled id = false) (hl : s.loop = some id) :
      AStep spawn stalled s (.handler id) { s with loop := none, finished := id :: s.finished }
  | spawned (id : Nat) (hst : stalled id = false) (hl : s.loop ≠ some id) (hr : id ∈ s.running) :
      AStep spawn stalled s (.handler id) { s with running := s.running.erase id, finished := id :: s.finished }

theorem astep_some {spawn : Bool} {stalled : Nat → Bool} {s s' : ASt} {a : AAct}
    (h : astep spawn stalled s a = some s') : AStep spawn stalled s a s' := by
  cases a with
  | arrive id => cases h; exact .arrive id
  | accept =>
    rw [astep] at h
    split at h
    · rename_i p rest hl hp
      cases spawn <;> cases h <;> exact .accept p rest hl hp
    · cases h
  | handler id =>
    rw [astep] at h
    by_cases hst : stalled id = true
    · rw [if_pos hst] at h; cases h
    · rw [if_neg hst] at h
      by_cases hl : s.loop = some id
      · rw [if_pos hl] at h; cases h; exact .inline id (Bool.eq_false_iff.mpr hst) hl
      · rw [if_neg hl] at h
        by_cases hr : id ∈ s.running
        · rw [if_pos hr] at h; cases h; exact .spawned id (Bool.eq_false_iff.mpr hst) hl hr
        · rw [if_neg hr] at h; cases h

theorem arun_loop_none (stalled : Nat → Bool) {s : ASt} (h : s.loop = none) (acts : List AAct) :
    (arun true stalled s acts).loop = none :=
  (arun_skipRun true stalled).invariant (P := fun s => s.loop = none)
    (fun hl hs => by cases astep_some hs <;> simp [hl]) h acts

theorem astep_finished_mono {spawn : Bool} {stalled : Nat → Bool} {s s' : ASt} {a : AAct} {p : Nat}
    (hp : p ∈ s.finished) (hs : astep spawn stalled s a = some s') : p ∈ s'.finished := by
  cases astep_some hs with
  | arrive => exact hp
  | accept => cases spawn <;> exact hp
  | inline | spawned => exact List.mem_cons_of_mem _ hp

theorem astep_pending_keep {stalled : Nat → Bool} {s s' : ASt} {a : AAct} (ha : a ≠ .accept) {p : Nat}
    (hp : p ∈ s.pending) (hs : astep true stalled s a = some s') : p ∈ s'.pending := by
  cases astep_some hs with
  | arrive => exact List.mem_append_left _ hp
  | accept => exact absurd rfl ha
  | inline | spawned => exact hp

theorem astep_accept_spawn {stalled : Nat → Bool} {s : ASt} {p : Nat} {rest : List Nat}
    (hl : s.loop = none) (hp : s.pending = p :: rest) :
    astep true stalled s .accept = some { s with pending := rest, running := p :: s.running } := by
  simp [astep, hl, hp]

theorem astep_handler_spawned {spawn : Bool} {stalled : Nat → Bool} {s : ASt} {id : Nat}
    (hst : stalled id = false) (hl : s.loop ≠ some id) (hr : id ∈ s.running) :
    astep spawn stalled s (.handler id) = some { s with running := s.running.erase id, finished := id :: s.finished } := by
  simp [astep, hst, hl, hr]

theorem accept_prefix (stalled : Nat → Bool) {s : ASt} (h : s.loop = none) {pre : List Nat} {p : Nat} {post : List Nat}
    (hp : s.pending = pre ++ p :: post) :
    p ∈ (arun true stalled s (List.replicate (pre.length + 1) .accept)).running := by
  induction pre generalizing s with
  | nil => simp [arun, astep_accept_spawn h hp]
  | cons q pre ih =>
    simp only [List.length_cons, List.replicate_succ, arun, astep_accept_spawn h hp]
    exact ih (s := { s with pending := pre ++ p :: post, running := q :: s.running }) h rfl

end SA.Accept
