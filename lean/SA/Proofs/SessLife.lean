/-
  The session-lifetime model SA.Model.SessLife under the code's policy (C02): while the server never closes the session
  of its own accord it stays alive, the client keeps believing so, and a SYN once sent is served or still on its way.
-/
import SA.Model.SessLife
import SA.Proofs.Run
namespace SA.SessLife

/-- invariant under the code's policy (`closeWhenEmpty = false`) -/
structure Good (s : St) : Prop where
  srvAlive : s.srvAlive = true
  cliBelieves : s.cliBelieves = true
  lost : s.lost = []
  redialled : s.redialled = 0

theorem init_good : Good {} := ⟨rfl, rfl, rfl, rfl⟩

/-- with the session alive and the client believing so, no step touches what `Good` reads -/
theorem step_good {s : St} {a : Act} (h : Good s) : Good (step false s a) := by
  obtain ⟨h1, h2, h3, h4⟩ := h
  cases a <;> simp only [step]
  case open_ => rw [if_pos h2]; exact ⟨h1, h2, h3, h4⟩
  case close => rw [if_pos h2]; exact ⟨h1, h2, h3, h4⟩
  case notify => rw [if_pos h1]; exact ⟨h1, h2, h3, h4⟩
  case deliver =>
    split
    · exact ⟨h1, h2, h3, h4⟩
    · rw [if_pos h1]; exact ⟨h1, h2, h3, h4⟩
    · rw [if_neg (by simp)]; exact ⟨h1, h2, h3, h4⟩

theorem run_good (s : St) (as : List Act) (h : Good s) : Good (run false s as) :=
  foldl_invariant step_good h as

theorem step_keeps {s : St} {a : Act} (hg : Good s) {id : Nat} (h : id ∈ s.served ∨ Frame.syn id ∈ s.inflight) :
    id ∈ (step false s a).served ∨ Frame.syn id ∈ (step false s a).inflight := by
  cases a <;> simp only [step, hg.srvAlive, hg.cliBelieves, if_true]
  case open_ => exact h.imp_right (List.mem_append_left _)
  case close => exact h.imp_right (List.mem_append_left _)
  case notify => exact h
  case deliver =>
    split
    · exact h
    · -- a SYN arrives: its connection is served, the others' SYNs travel on
      rename_i id' rest heq
      rw [heq] at h
      rcases h with h | h
      · exact .inl (List.mem_cons_of_mem _ h)
      · rcases List.mem_cons.mp h with h | h
        · cases h; exact .inl List.mem_cons_self
        · exact .inr h
    · -- a FIN arrives: no SYN leaves the carrier
      rename_i id' rest heq
      rw [heq] at h
      simp only [Bool.and_false, Bool.false_and, Bool.false_eq_true, if_false]
      exact h.imp_right fun h => (List.mem_cons.mp h).resolve_left (by simp)

theorem step_open {s : St} (hg : Good s) {id : Nat} : Frame.syn id ∈ (step false s (.open_ id)).inflight := by
  simp [step, hg.cliBelieves]

theorem run_keeps (s : St) (as : List Act) (hg : Good s) {id : Nat} (h : id ∈ s.served ∨ Frame.syn id ∈ s.inflight) :
    id ∈ (run false s as).served ∨ Frame.syn id ∈ (run false s as).inflight :=
  (foldl_invariant (P := fun t : St => Good t ∧ (id ∈ t.served ∨ Frame.syn id ∈ t.inflight))
    (fun h => ⟨step_good h.1, step_keeps h.1 h.2⟩) ⟨hg, h⟩ as).2

end SA.SessLife
