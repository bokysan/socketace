/-
  SA.Proofs.DnsReq — every request decodes to itself, and its encoding only uses bytes that are safe
  inside a DNS name.

  A request on the wire is `encodeHeader code cache uid ++ coded (plain r)` (`encodeReq_eq`): a header, and a
  plaintext body handed to Base32, to the upstream codec, or written raw.  The server's dispatch finds the
  command of the header (`decodeReq_header`), `decodeHeader` takes the header off again
  (`decodeHeader_encodeHeader`), and what is left is one codec round trip and the body's own fields.

  Then the whole path `roundTrip`, one equation per exit; last, the client's size budget: a packet request cut to
  getUpstreamMtu is accepted by PrepareHostname (`packet_fits`).
-/
import SA.Proofs.DnsWire
import SA.Model.DnsReq

namespace SA.DnsReq
open SA.DnsWire SA.WireCodec

def SafeByte (b : Nat) : Prop := b ≠ 46 ∧ b ≠ 92 ∧ b < 256

instance (b : Nat) : Decidable (SafeByte b) := by unfold SafeByte; infer_instance

theorem SafeByte.lt {b : Nat} (h : SafeByte b) : b < 256 := h.2.2

theorem SafeByte.of_dnsSafe {x : Nat} (h : SA.Codec.dnsSafe x = true) : SafeByte x := by
  simp only [SA.Codec.dnsSafe, Bool.and_eq_true, decide_eq_true_eq, bne_iff_ne, ne_eq] at h
  obtain ⟨⟨⟨-, hdot⟩, hbsl⟩, hlt⟩ := h
  exact ⟨hdot, hbsl, hlt⟩

/-- a string that can stand in a name as it is: what a `Safe` codec emits, a request header, an order tag -/
def NameSafe (c : List Nat) : Prop := ∀ b ∈ c, SafeByte b

theorem NameSafe.of_codec {c : Codec} (s : c.Safe) {bs : List Nat} (h : SA.Bytes bs) : NameSafe (c.enc bs) := s.safe bs h

theorem NameSafe.noSyntax {l : List Nat} (h : NameSafe l) : NoSyntax l := fun b hb => ⟨(h b hb).1, (h b hb).2.1⟩

theorem NameSafe.no_bsl {l : List Nat} (h : NameSafe l) : ∀ b ∈ l, b ≠ bsl := fun b hb => (h b hb).2.1

theorem NameSafe.bytes {l : List Nat} (h : NameSafe l) : SA.Bytes l := fun b hb => (h b hb).lt

theorem NameSafe.of_noSyntax {l : List Nat} (h : NoSyntax l) (hb : SA.Bytes l) : NameSafe l :=
  fun b hbl => ⟨(h b hbl).1, (h b hbl).2, hb b hbl⟩

/-- the field ranges of the property's quantifier -/
def ReqOk : Req → Prop
  | .version ver => ver < 4294967296
  | .options uid _ _ _ down up frag =>
    uid < SA.Gen.C09.maxUserId ∧ (∀ d, down = some d → d ∈ registryCodes) ∧ (∀ u, up = some u → u ∈ registryCodes)
      ∧ (∀ f, frag = some f → f < 4294967295)
  | .packet uid ack pkt => uid < SA.Gen.C09.maxUserId ∧ ack < 65536 ∧ (∀ p, pkt = some p → p.1 < 65536 ∧ SA.Bytes p.2)
  | .downEnc code => code ∈ registryCodes
  | .upEnc uid pattern => uid < SA.Gen.C09.maxUserId ∧ ∀ b ∈ pattern, SafeByte b
  | .fragSize uid frag => uid < SA.Gen.C09.maxUserId ∧ frag < 4294967296

/-- the three cache-busting characters: any three name-safe bytes (the code draws them from a–z0–9) -/
def CacheOk (cache : List Nat) : Prop := cache.length = 3 ∧ ∀ b ∈ cache, SafeByte b

theorem gen_fromCode_registry : ∀ c ∈ registryCodes, fromCode c = some c := by decide
theorem gen_registry_safe : ∀ c ∈ registryCodes, SafeByte c := by decide
/-- 32 is the wire's "no codec" -/
theorem gen_registry_ne_space : ∀ c ∈ registryCodes, c ≠ 32 := by decide

theorem bytes_replicate (n b : Nat) (h : b < 256) : SA.Bytes (List.replicate n b) := .replicate n h

@[simp] theorem bytes_le16 (x : Nat) : SA.Bytes (le16 x) := by
  intro b hb; simp [le16] at hb; omega

@[simp] theorem bytes_le32 (x : Nat) : SA.Bytes (le32 x) := by
  intro b hb; simp [le32] at hb; omega

@[simp] theorem triByte_lt (t : Option Bool) : triByte t < 256 := by
  cases t with
  | none => decide
  | some b => cases b <;> decide

theorem rd16_le16_mod (o : Nat) (p : List Nat) : rd16 (le16 o ++ p) = some (o % 65536, p) := by
  simp only [le16, rd16, List.cons_append, List.nil_append]
  congr 2; omega

theorem rd16_le16 (x : Nat) (h : x < 65536) (rest : List Nat) : rd16 (le16 x ++ rest) = some (x, rest) := by
  rw [rd16_le16_mod, Nat.mod_eq_of_lt h]

theorem rd16_le16_nil (x : Nat) (h : x < 65536) : rd16 (le16 x) = some (x, []) := by
  simpa using rd16_le16 x h []

theorem rd32_le32 (x : Nat) (h : x < 4294967296) (rest : List Nat) : rd32 (le32 x ++ rest) = some (x, rest) := by
  simp [rd32, le32]; omega

theorem rd32_le32_nil (x : Nat) (h : x < 4294967296) : rd32 (le32 x) = some (x, []) := by
  simpa using rd32_le32 x h []

@[simp] theorem byteTri_triByte (t : Option Bool) : byteTri (triByte t) = t := by
  cases t with
  | none => rfl
  | some b => cases b <;> rfl

theorem codeOpt_lt (d : Option Nat) (h : ∀ x, d = some x → x ∈ registryCodes) : d.getD 32 < 256 := by
  cases d with
  | none => decide
  | some x => exact (gen_registry_safe x (h x rfl)).lt

theorem codeOpt_roundtrip (d : Option Nat) (h : ∀ x, d = some x → x ∈ registryCodes) :
    (if d.getD 32 = 32 then some none else (fromCode (d.getD 32)).map some) = some d := by
  cases d with
  | none => simp
  | some x => simp [gen_fromCode_registry x (h x rfl), gen_registry_ne_space x (h x rfl)]

theorem base36Val_digit (d : Nat) (h : d < 36) : base36Val (base36Digit d) = some d := by
  unfold base36Digit base36Val
  by_cases h10 : d < 10
  · simp [h10]; omega
  · simp only [h10, if_false]
    rw [if_neg (by omega), if_pos (by omega)]
    simp

theorem base36Digit_safe (d : Nat) (h : d < 36) : SafeByte (base36Digit d) := by
  unfold base36Digit SafeByte
  by_cases h10 : d < 10 <;> simp [h10] <;> omega

theorem gen_maxUserId : SA.Gen.C09.maxUserId = 36 * 36 := rfl

theorem encodeUserId_safe (uid : Nat) : NameSafe (encodeUserId uid) := by
  have hlt : uid % SA.Gen.C09.maxUserId < 36 * 36 := by rw [gen_maxUserId]; exact Nat.mod_lt _ (by decide)
  intro b hb
  simp [encodeUserId] at hb
  rcases hb with rfl | rfl
  · exact base36Digit_safe _ (by omega)
  · exact base36Digit_safe _ (Nat.mod_lt _ (by decide))

theorem decodeHeader_encodeHeader {code uid : Nat} {cache tail : List Nat} (hc : cache.length = 3)
    (hu : uid < SA.Gen.C09.maxUserId) :
    decodeHeader code (encodeHeader code cache uid ++ tail) = .ok (tail, if needsUserId code then uid else 0) := by
  match cache, hc with
  | [c1, c2, c3], _ =>
    have hm := gen_maxUserId
    unfold decodeHeader encodeHeader
    cases hn : needsUserId code
    · simp
    · simp only [encodeUserId, Nat.mod_eq_of_lt hu, if_true, List.cons_append, List.nil_append, List.length_cons,
        List.drop_succ_cons, List.drop_zero, base36Val_digit _ (show uid / 36 < 36 by omega),
        base36Val_digit _ (Nat.mod_lt uid (show 0 < 36 by decide))]
      rw [if_neg (by omega)]
      congr 3; omega

theorem encodeHeader_safe {code : Nat} (hcode : SafeByte code) {cache : List Nat} (hc : NameSafe cache) (uid : Nat) :
    NameSafe (encodeHeader code cache uid) := by
  refine List.forall_mem_cons.mpr ⟨hcode, List.forall_mem_append.mpr ⟨hc, ?_⟩⟩
  split
  · exact encodeUserId_safe uid
  · nofun

/-- the user id a request carries in its header (0 for the commands without one) -/
def Req.uid : Req → Nat
  | .version .. | .downEnc .. => 0
  | .options uid .. | .packet uid .. | .upEnc uid .. | .fragSize uid .. => uid

def payloadLen : Option (Nat × List Nat) → Nat
  | some (_, data) => data.length
  | none => 0

/-- what a request hands to its codec, or writes raw -/
def Req.plain : Req → List Nat
  | .version ver => le32 ver
  | .options _ l m c down upc frag =>
    [triByte l, triByte m, triByte c, down.getD 32, upc.getD 32] ++ le32 (frag.getD 4294967295)
  | .packet _ ack pkt => le16 ack ++ (match pkt with
    | some (seq, data) => 255 :: le16 seq ++ data
    | none => [0])
  | .downEnc code => [code]
  | .upEnc _ pattern => pattern
  | .fragSize _ frag => le32 frag

/-- the codec of a request's body: hard-wired Base32, the upstream codec, or none -/
def Req.coded (b32 up : Codec) : Req → List Nat → List Nat
  | .version .. | .options .. | .fragSize .. => b32.enc
  | .packet .. => up.enc
  | .downEnc .. | .upEnc .. => id

theorem encodeReq_eq (b32 up : Codec) (cache : List Nat) (r : Req) :
    encodeReq b32 up cache r = encodeHeader (cmdCode r) cache r.uid ++ r.coded b32 up r.plain := by
  cases r <;> rfl

theorem decodeReq_header (b32 up : Codec) (cache tail : List Nat) (uid : Nat) (r : Req) :
    decodeReq b32 up (encodeHeader (cmdCode r) cache uid ++ tail)
      = decodeBody b32 up (cmdCode r) (encodeHeader (cmdCode r) cache uid ++ tail) := by
  cases r <;> rfl

theorem needsUserId_cmd (r : Req) : (if needsUserId (cmdCode r) then r.uid else 0) = r.uid := by
  cases r <;> rfl

theorem cmdCode_safe (r : Req) : SafeByte (cmdCode r) := by
  cases r <;> simp [cmdCode, SafeByte]

theorem uid_lt (r : Req) (hr : ReqOk r) : r.uid < SA.Gen.C09.maxUserId := by
  cases r with
  | version | downEnc => exact (by decide : 0 < SA.Gen.C09.maxUserId)
  | options | packet | upEnc | fragSize => exact hr.1

theorem ReqOk.packet_bytes {uid ack : Nat} {pkt : Option (Nat × List Nat)} (hr : ReqOk (.packet uid ack pkt)) :
    ∀ p, pkt = some p → SA.Bytes p.2 := fun p hp => (hr.2.2 p hp).2

theorem packet_plain_bytes (uid ack : Nat) (pkt : Option (Nat × List Nat)) (h : ∀ p, pkt = some p → SA.Bytes p.2) :
    SA.Bytes (Req.packet uid ack pkt).plain := by
  cases pkt with
  | none => simp [Req.plain]
  | some p => simpa [Req.plain] using h p rfl

theorem plain_bytes (r : Req) (hr : ReqOk r) : SA.Bytes r.plain := by
  cases r with
  | version ver => exact bytes_le32 ver
  | options uid l m c down upc frag => simp [Req.plain, codeOpt_lt down hr.2.1, codeOpt_lt upc hr.2.2.1]
  | packet uid ack pkt => exact packet_plain_bytes uid ack pkt hr.packet_bytes
  | downEnc code => simpa [Req.plain] using (gen_registry_safe _ hr).lt
  | upEnc uid pattern => exact NameSafe.bytes hr.2
  | fragSize uid frag => exact bytes_le32 frag

theorem encodeReq_ne_nil (b32 up : Codec) (cache : List Nat) (r : Req) : encodeReq b32 up cache r ≠ [] := by
  simp [encodeReq_eq, encodeHeader]

theorem encodeReq_safe (b32 up : Codec) (sb : b32.Safe) (su : up.Safe) {cache : List Nat} (hc : NameSafe cache)
    (r : Req) (hr : ReqOk r) : NameSafe (encodeReq b32 up cache r) := by
  rw [encodeReq_eq]
  refine List.forall_mem_append.mpr ⟨encodeHeader_safe (cmdCode_safe r) hc _, ?_⟩
  have hp := plain_bytes r hr
  cases r with
  | version | options | fragSize => exact NameSafe.of_codec sb hp
  | packet => exact NameSafe.of_codec su hp
  | downEnc code => exact List.forall_mem_singleton.mpr (gen_registry_safe _ hr)
  | upEnc => exact hr.2

theorem encodeReq_labels (b32 up : Codec) (sb : b32.Safe) (su : up.Safe) (cache domain : List Nat)
    (dls : List (List Nat)) (hc : CacheOk cache) (hdom : DomainOk domain dls) (r : Req) (hr : ReqOk r) (host : List Nat)
    (hfit : prepareHostname (encodeReq b32 up cache r) domain = some host) :
    nameOverWire host = .ok (hostChunks (encodeReq b32 up cache r) ++ dls) :=
  prepareHostname_labels (encodeReq_ne_nil b32 up cache r) (encodeReq_safe b32 up sb su hc.2 r hr).noSyntax hdom hfit

theorem decodeReq_encodeReq (b32 up : Codec) (hb : b32.Good) (hu : up.Good)
    (cache : List Nat) (hc : cache.length = 3) (r : Req) (hr : ReqOk r) :
    decodeReq b32 up (encodeReq b32 up cache r) = .ok r := by
  have hp := plain_bytes r hr
  rw [encodeReq_eq, decodeReq_header, decodeBody, decodeHeader_encodeHeader hc (uid_lt r hr), needsUserId_cmd]
  cases r with
  | version ver =>
    simp [cmdCode, Req.coded, hb.roundtrip _ hp]
    simp [Req.plain, rd32_le32_nil ver hr]
  | options uid l m c down upc frag =>
    obtain ⟨_, hd, hup, hfr⟩ := hr
    have h32 : frag.getD 4294967295 < 4294967296 := by
      cases frag with
      | none => decide
      | some f => have := hfr f rfl; simp; omega
    have hf : (if frag.getD 4294967295 = 4294967295 then none else some (frag.getD 4294967295)) = frag := by
      cases frag with
      | none => rfl
      | some f => have := hfr f rfl; simp; omega
    simp [cmdCode, Req.coded, Req.uid, hb.roundtrip _ hp]
    simp [Req.plain, decodeOptions, rd32_le32_nil _ h32, codeOpt_roundtrip down hd, codeOpt_roundtrip upc hup, hf]
  | packet uid ack pkt =>
    obtain ⟨_, hack, hseq⟩ := hr
    simp [cmdCode, Req.coded, Req.uid, hu.roundtrip _ hp]
    cases pkt with
    | none => simp [Req.plain, decodePacket, rd16_le16 ack hack]
    | some p => simp [Req.plain, decodePacket, rd16_le16 ack hack, rd16_le16 p.1 (hseq p rfl).1]
  | downEnc code => simp [cmdCode, Req.coded, Req.plain, gen_fromCode_registry code hr]
  | upEnc uid pattern => simp [cmdCode, Req.coded, Req.plain, Req.uid]
  | fragSize uid frag =>
    simp [cmdCode, Req.coded, Req.uid, hb.roundtrip _ hp]
    simp [Req.plain, rd32_le32_nil frag hr.2]

/-! the exits of `roundTrip`, in the order of its stages (`.panic` and `.decError` are what C09 excludes) -/

section RoundTrip
variable {b32 up : Codec} {cache domain host : List Nat} {r : Req}

theorem roundTrip_too_long (h : prepareHostname (encodeReq b32 up cache r) domain = none) :
    roundTrip b32 up cache domain r = .encError := by
  simp only [roundTrip, h]

theorem roundTrip_wire_error {e : WireErr} (h1 : prepareHostname (encodeReq b32 up cache r) domain = some host)
    (h2 : nameOverWire host = .error e) :
    roundTrip b32 up cache domain r = if e = .unpack then .unpackError else .packError := by
  cases e <;> simp [roundTrip, h1, h2]

theorem roundTrip_of {data : List Nat} {labels : List (List Nat)} {r' : Req}
    (h1 : prepareHostname (encodeReq b32 up cache r) domain = some host) (h2 : nameOverWire host = .ok labels)
    (h3 : stripDomain (unpackName labels) domain = some data) (h4 : decodeReq b32 up data = .ok r') :
    roundTrip b32 up cache domain r = .ok (unpackName labels) labels r' := by
  simp only [roundTrip, h1, h2, h3, h4]

end RoundTrip

/-! ### the client's size budget

getUpstreamMtu (`upstreamMtu`) against PrepareHostname + Dotify, for a packet request: 6 characters of request header,
the upstream codec's expansion of 5 bytes of packet header + payload, Dotify's dots, the domain.  `packet_fits`: a payload
of at most getUpstreamMtu bytes is accepted, for every upstream codec of ratio `num : den` ≥ 8 : 7 that emits at most
ratio · n + 2 characters. -/

theorem gen_labelMaxLen : SA.Gen.labelMaxLen = 60 := rfl
theorem gen_hostnameMaxLen : SA.Gen.hostnameMaxLen = 253 := rfl
theorem gen_prepareSlack : SA.Gen.C09.prepareSlack = 2 := rfl

/-- the exact formula: mtu = ⌊59·((247 − L)·den − 10·num) / (60·num)⌋ (single-query mode) -/
theorem upstreamMtu_formula (L num den : Nat) :
    upstreamMtu L num den false =
      (if (59 : Int) * ((247 - (L : Int)) * den - 10 * num) < 0 then none
       else some ((59 * ((247 - (L : Int)) * den - 10 * num)) / (60 * (num : Int))).toNat) := by
  unfold upstreamMtu
  simp only [gen_hostnameMaxLen, gen_labelMaxLen, Bool.false_eq_true, if_false]
  have : ((253 : Nat) : Int) - L - 2 - 4 = 247 - L := by omega
  rw [this]
  rfl

/-- what the floor in getUpstreamMtu says (over ℤ, where 247 − L may be negative: then there is no mtu) -/
theorem upstreamMtu_le {L num den m : Nat} (hnum : 0 < num) (h : upstreamMtu L num den false = some m) :
    (60 * (num * m) : Int) ≤ 59 * ((247 - L) * den - 10 * num) := by
  rw [upstreamMtu_formula] at h
  split at h
  · cases h
  · rename_i hx
    have hnum' : (0 : Int) < 60 * num := by omega
    have h1 := Int.mul_ediv_self_le (x := 59 * ((247 - (L : Int)) * den - 10 * num)) (Int.ne_of_gt hnum')
    rwa [← Int.toNat_of_nonneg (Int.ediv_nonneg (Int.not_lt.mp hx) (Int.le_of_lt hnum')), Option.some.inj h,
      Int.mul_assoc] at h1

/-- PrepareHostname's test for 6 header characters + `E` encoded characters, Dotify's dots (a stride `s` of at least 57
    puts in no more than 57 does), the domain.  The hypothesis is the inequality `fits_of_ratio` arrives at, divided
    by `den`.  60 × the length bound on `E` and getUpstreamMtu's 59/60 formula give
    `60·den·E ≤ 59·(247 − L)·den − 290·num + 120·den` (290 = 59·10 − 60·5, 120 = 60·2);
    times 7, with `7·num ≥ 8·den`: 420 = 7·60, 413 = 7·59, 2320 = 8·290, 840 = 7·120. -/
theorem fits_arith {E L s : Nat} (hs : 57 ≤ s) (h : (420 * E + 2320 : Int) ≤ 413 * (247 - L) + 840) :
    6 + E + (if 6 + E > 60 then (6 + E - 1) / s else 0) + L + 2 ≤ 251 := by
  have := Nat.div_le_div_left (a := 6 + E - 1) hs (by decide)
  split <;> omega

/-- the arithmetic of getUpstreamMtu against PrepareHostname + Dotify, for any codec that expands by at least
    8 : 7: a payload of at most mtu bytes, 5 bytes of packet header, an encoding of at most ratio · n + 2
    characters, 6 characters of request header.  The bound on `E` falls as the ratio grows, so
    8 : 7 (Base128) is the worst case, and there nothing is to spare (at L = 0 the hypotheses allow E = 239, which
    with 4 dots makes exactly 251); at 1 : 1 the statement is false. -/
theorem fits_of_ratio {num den L m n E s : Nat} (hs : 57 ≤ s) (hd : 0 < den) (hr : 8 * den ≤ 7 * num)
    (hm : upstreamMtu L num den false = some m) (hn : n ≤ m)
    (hE : den * E ≤ num * (n + 5) + 2 * den) :
    6 + E + (if 6 + E > 60 then (6 + E - 1) / s else 0) + L + 2 ≤ 251 := by
  have h1 := upstreamMtu_le (by omega) hm
  have h2 : num * n ≤ num * m := Nat.mul_le_mul_left _ hn
  rw [Nat.mul_add] at hE
  -- 60·(hE) + 60·(h2) + h1, then 7·num ≥ 8·den: every term has the factor `den`
  have h3 : (den : Int) * (420 * E + 2320) ≤ den * (413 * (247 - L) + 840) := by
    rw [Int.mul_add, Int.mul_add, Int.mul_left_comm, Int.mul_left_comm (den : Int) 413, Int.mul_comm (den : Int) (247 - L)]
    omega
  exact fits_arith hs (Int.le_of_mul_le_mul_left h3 (by omega))

/-- a packet request's plaintext: ack, flag, and (with data) sequence number + payload -/
theorem packet_plain_length (uid ack : Nat) (pkt : Option (Nat × List Nat)) :
    (Req.packet uid ack pkt).plain.length ≤ payloadLen pkt + 5 := by
  cases pkt <;> simp [Req.plain, payloadLen, le16]

theorem encodeReq_packet_length {b32 up : Codec} {cache : List Nat} (hc : cache.length = 3)
    (uid ack : Nat) (pkt : Option (Nat × List Nat)) :
    (encodeReq b32 up cache (.packet uid ack pkt)).length = 6 + (up.enc (Req.packet uid ack pkt).plain).length := by
  simp [encodeReq_eq, cmdCode, encodeHeader, show needsUserId 99 = true by decide, encodeUserId, Req.coded, hc]
  omega

theorem packet_fits {b32 up : Codec} {num den : Nat} (hd : 0 < den) (hr : 8 * den ≤ 7 * num)
    (hup : ∀ bs, SA.Bytes bs → den * (up.enc bs).length ≤ num * bs.length + 2 * den)
    {cache : List Nat} (domain : List Nat) (hc : cache.length = 3) (uid ack : Nat) (pkt : Option (Nat × List Nat))
    (hbytes : ∀ p, pkt = some p → SA.Bytes p.2)
    {m : Nat} (hm : upstreamMtu domain.length num den false = some m) (hlen : payloadLen pkt ≤ m) :
    ∃ host, prepareHostname (encodeReq b32 up cache (.packet uid ack pkt)) domain = some host := by
  apply prepareHostname_fits
  rw [gen_labelMaxLen, gen_hostnameMaxLen, gen_prepareSlack, encodeReq_packet_length hc]
  refine fits_of_ratio gen_stride_ge hd hr hm hlen (Nat.le_trans (hup _ (packet_plain_bytes uid ack pkt hbytes)) ?_)
  exact Nat.add_le_add_right (Nat.mul_le_mul_left _ (packet_plain_length uid ack pkt)) _

end SA.DnsReq
