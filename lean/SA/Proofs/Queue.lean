/-
  SA.Proofs.Queue — invariants of the DNS-tunnel queue pair (model SA.Model.Queue).

  One *link* = a sender `OutQ` and the receiver `InQ` of its peer.  Ghost chunk indices:
    n  = number of chunks ever added to the sender        (o.nW, chunks o.W)
    hd = index of the head of `out`                        (o.hd = n - |out|)
    r  = number of chunks released in order by the receiver (i.cnt)
  chunk j carries sequence number (s + j) mod 2^16; the acknowledgement produced when the receiver
  had released g chunks is (s - 1 + g) mod 2^16.

  Shape of the argument: `LinkInv` (one direction) is kept by the three queue operations `addChunk`,
  `updateAcked`, `append`; `Link` adds the source facts it is kept under (`Consts`) and the receiver's duplicate
  cache; `Joined` is two endpoints with a `Link` in each direction.  A message is an (ack, packet) pair with its
  ghost indices (a `Query`; a response carries the same four); `End.msg` is the one an endpoint would send right
  now.  An endpoint handles a message the same way whether it is the server (`serve`) or the client
  (`clientRecv`): `End.recv`, `recv_inv`, for any message that its peer produced at most `A` steps ago (`MsgOk`,
  the one notion for queries in `hist`, fresh queries and responses).  How far an endpoint has moved is `Adv n`;
  a message ages by exactly that (`MsgOk.grow`).  `xchg_inv` then reads off each fate as a short chain of
  `serve_inv` / `clientRecv_inv`.
-/
import SA.Proofs.QueueOps
import SA.Proofs.QueueWindow
namespace SA.Queue

def seqOf (s j : Nat) : Nat := (s + j) % MOD
def ackv (s g : Nat) : Nat := (s + 65535 + g) % MOD

/-! ### sequence numbers: `seqOf` and `ackv` are unfolded here and nowhere else -/

theorem seqOf_lt (s j : Nat) : seqOf s j < MOD := Nat.mod_lt _ (by decide)

theorem seqOf_zero {s : Nat} (h : s < MOD) : seqOf s 0 = s := by unfold seqOf; omega

theorem seqOf_succ (s j : Nat) : (seqOf s j + 1) % MOD = seqOf s (j + 1) := Nat.mod_add_mod _ _ _

theorem seqOf_wrap {s k : Nat} (h : MOD ≤ k) : seqOf s k = seqOf s (k - MOD) := by unfold seqOf; omega

theorem ackv_succ (s j : Nat) : ackv s (j + 1) = seqOf s j := by unfold seqOf ackv; omega

theorem seqOf_inj {s j k : Nat} (h : seqOf s j = seqOf s k) (h1 : j < k + MOD) (h2 : k < j + MOD) : j = k := by
  unfold seqOf at h; omega

theorem ackv_eq_seqOf {s g j : Nat} (h : ackv s g = seqOf s j) (h1 : g ≤ j + MOD) (h2 : j + 1 < g + MOD) :
    g = j + 1 := by
  unfold seqOf ackv at h; omega

theorem ackv_inj {s g k : Nat} (h : ackv s g = ackv s k) (h1 : g < k + MOD) (h2 : k < g + MOD) : g = k := by
  unfold ackv at h; omega

/-- `in.NextSeqNo - 1` when `r` chunks have been released -/
theorem ackOf_seqOf {c : Cfg} (hc : c.ackOff = 1) (s r : Nat) : ackOf c (seqOf s r) = ackv s r := by
  rw [ackOf_one hc]; unfold ackv seqOf; omega

theorem ahead_behind {s j r : Nat} (hj : j < r) (hr : r ≤ j + MOD) : ahead (seqOf s j) (seqOf s r) = MOD - (r - j) := by
  unfold ahead seqOf; omega

/-- with the window `next+1 … next+Max-1`, a chunk at most `2^16 - Max` behind the expected one is outside it -/
theorem inWindow_behind {c : Cfg} (h1 : c.wlo = 1) (h2 : c.whi = c.max) (h3 : 1 ≤ c.max) {s j r : Nat} (hj : j < r)
    (hr : r + c.max ≤ j + MOD) : inWindow c (seqOf s r) (seqOf s j) = false := by
  cases hw : inWindow c (seqOf s r) (seqOf s j) with
  | false => rfl
  | true =>
    have := (inWindow_iff h1 h2 h3 (by omega) (seqOf_lt s r) (seqOf_lt s j)).mp hw
    rw [ahead_behind hj (by omega)] at this
    omega

/-- the packets of the chunks `ds`, the first having index `k` -/
def pk (s : Nat) : Nat → List (List Nat) → List Pkt
  | _, [] => []
  | k, d :: ds => ⟨seqOf s k, d⟩ :: pk s (k + 1) ds

theorem pk_append (s : Nat) (k : Nat) (l1 l2 : List (List Nat)) :
    pk s k (l1 ++ l2) = pk s k l1 ++ pk s (k + l1.length) l2 := by
  induction l1 generalizing k with
  | nil => simp [pk]
  | cons d ds ih => simp [pk, ih, Nat.add_assoc, Nat.add_comm 1]

theorem pk_head? (s k : Nat) (l : List (List Nat)) : (pk s k l).head? = l.head?.map (⟨seqOf s k, ·⟩) := by
  cases l <;> rfl

theorem pk_length (s k : Nat) (l : List (List Nat)) : (pk s k l).length = l.length := by
  induction l generalizing k with
  | nil => rfl
  | cons d ds ih => simp [pk, ih]

theorem mem_pk {s k : Nat} {l : List (List Nat)} {p : Pkt} (h : p ∈ pk s k l) :
    ∃ j, k ≤ j ∧ j < k + l.length ∧ p.seq = seqOf s j := by
  induction l generalizing k with
  | nil => simp [pk] at h
  | cons d ds ih =>
    simp only [pk, List.mem_cons] at h
    rcases h with h | h
    · exact ⟨k, Nat.le_refl _, by simp, by rw [h]⟩
    · obtain ⟨j, h1, h2, h3⟩ := ih h
      exact ⟨j, by omega, by simp; omega, h3⟩

/-- what the proofs need from the source facts, and the arithmetic room: in-flight chunks `Bd`,
    index age `A` of replayed packets / acks and the cache size stay below 2^16 together -/
structure Consts (c : Cfg) (A Bd : Nat) : Prop where
  trim : c.outTrim = 1
  wlo : c.wlo = 1
  whi : c.whi = c.max
  ack : c.ackOff = 1
  max1 : 1 ≤ c.max
  -- Equal numbers must mean equal indices across every distance the proofs compare: a cached acknowledgement against
  -- a chunk still queued is `A + Max + Bd` apart (`out_ne_ack`), a replayed packet against the far end of the window
  -- `A + 1 + Max` (`LinkInv.append`).  That takes `+ 1`; the second unit is slack.
  bound : Bd + A + c.max + 2 ≤ MOD

structure LinkInv (c : Cfg) (s A Bd : Nat) (o : OutQ) (i : InQ) : Prop where
  hnW : o.nW = o.WR.length
  hlen : o.out.length ≤ o.nW
  hnext : o.next = seqOf s o.nW
  hout : o.out = pk s o.hd (o.W.drop o.hd)
  hacked : o.acked = o.ackIdx.map (ackv s)
  -- The crux of the wrap argument.  The head is ahead of a cached index `g` by at most `A` plus the number of entries
  -- cached after it (each accounts for at most one step of the head), hence by less than `A + Max`: the number of a
  -- cached acknowledgement is never that of a chunk still in `out` (`out_ne_ack`).  Keep-newest trimming drops
  -- position 0 and shifts the rest down, which keeps the inequality (`idx_step`); keep-oldest trimming drops the
  -- entries that account for the steps, and loses it.
  hidx : ∀ p g, o.ackIdx[p]? = some g → g ≤ o.hd ∧ o.hd + p + 1 ≤ g + A + o.ackIdx.length
  hackl : o.ackIdx.length ≤ c.max
  hinext : i.next = seqOf s i.cnt
  hrel : i.rel = (o.W.take i.cnt).flatten
  -- Under the modelled fates the receiver never parks anything: the sender offers only the head of `out`, so a
  -- packet is the expected one, a cached duplicate, or behind the window (`LinkInv.append`).
  hfut : i.future = []
  hr1 : o.hd ≤ i.cnt
  hr2 : i.cnt ≤ o.hd + 1
  hrn : i.cnt ≤ o.nW
  hB : o.out.length ≤ Bd

/-- chunk `j` of the sender is the packet `p` -/
def PktIs (s : Nat) (o : OutQ) (j : Nat) (p : Pkt) : Prop :=
  ∃ d, o.W[j]? = some d ∧ p = ⟨seqOf s j, d⟩

section link
variable {c : Cfg} {s A Bd : Nat} {o : OutQ} {i : InQ}

theorem LinkInv.W_len (h : LinkInv c s A Bd o i) : o.W.length = o.nW := by rw [OutQ.W, List.length_reverse, h.hnW]

theorem LinkInv.out_len (h : LinkInv c s A Bd o i) : o.out.length + o.hd = o.nW := by
  have := h.hlen; unfold OutQ.hd; omega

theorem LinkInv.out_mem (h : LinkInv c s A Bd o i) {q : Pkt} (hq : q ∈ o.out) :
    ∃ j, o.hd ≤ j ∧ j < o.nW ∧ q.seq = seqOf s j := by
  rw [h.hout] at hq
  obtain ⟨j, h1, h2, h3⟩ := mem_pk hq
  have := h.W_len
  exact ⟨j, h1, by simp at h2; omega, h3⟩

theorem LinkInv.acked_mem (h : LinkInv c s A Bd o i) {v : Nat} (hv : v ∈ o.acked) :
    ∃ g, v = ackv s g ∧ g ≤ o.hd ∧ o.hd + 1 ≤ g + A + c.max := by
  rw [h.hacked] at hv
  obtain ⟨g, hg, rfl⟩ := List.mem_map.mp hv
  obtain ⟨p, hp, hpg⟩ := List.getElem_of_mem hg
  obtain ⟨h1, h2⟩ := h.hidx p g (by rw [List.getElem?_eq_getElem hp, hpg])
  have := h.hackl
  exact ⟨g, rfl, h1, by omega⟩

theorem LinkInv.out_ne_ack (h : LinkInv c s A Bd o i) (hc : Consts c A Bd) {g : Nat} (hg : g ≤ o.hd)
    (hg' : o.hd + 1 ≤ g + A + c.max) : ∀ q ∈ o.out, q.seq ≠ ackv s g := by
  intro q hq he
  obtain ⟨j, hj1, hj2, hj3⟩ := h.out_mem hq
  have := h.out_len; have := h.hB; have := hc.bound
  have := ackv_eq_seqOf (he.symm.trans hj3) (by omega) (by omega)
  omega

theorem LinkInv.no_match (h : LinkInv c s A Bd o i) (hc : Consts c A Bd) :
    ∀ v ∈ o.acked, ∀ q ∈ o.out, q.seq ≠ v := by
  intro v hv
  obtain ⟨g, rfl, h1, h2⟩ := h.acked_mem hv
  exact h.out_ne_ack hc h1 h2

theorem LinkInv.addChunk (h : LinkInv c s A Bd o i) (d : List Nat) (hb : o.out.length + 1 ≤ Bd) :
    LinkInv c s A Bd (o.addChunk d) i := by
  have hW := h.W_len; have hol := h.out_len; have hrn := h.hrn
  have hhd : (o.addChunk d).hd = o.hd := addChunk_hd o d
  exact { h with
    hnW := congrArg (· + 1) h.hnW
    hlen := show (o.out ++ [_]).length ≤ o.nW + 1 by simp; omega
    hnext := show (o.next + 1) % MOD = seqOf s (o.nW + 1) by rw [h.hnext, seqOf_succ]
    hout := show o.out ++ [⟨o.next, d⟩] = _ by
      rw [hhd, addChunk_W, List.drop_append_of_le_length (by omega), pk_append, ← h.hout, List.length_drop, hW,
        show o.hd + (o.nW - o.hd) = o.nW by omega, h.hnext]
      rfl
    hidx := hhd ▸ h.hidx
    hrel := by rw [addChunk_W, h.hrel, List.take_append_of_le_length (by omega)]
    hr1 := hhd ▸ h.hr1
    hr2 := hhd ▸ h.hr2
    hrn := Nat.le_succ_of_le hrn
    hB := show (o.out ++ [_]).length ≤ Bd by simpa using hb }

/-- the ack cache under keep-newest trimming, on plain lists of indices -/
theorem idx_step {L : List Nat} {hd hd' A max g : Nat}
    (h : ∀ p g', L[p]? = some g' → g' ≤ hd ∧ hd + p + 1 ≤ g' + A + L.length)
    (h1 : g ≤ hd') (h2 : hd' ≤ g + A) (h3 : hd ≤ hd') (h4 : hd' ≤ hd + 1) :
    (applyTrim 1 max (L ++ [g])).length ≤ max ∧
    ∀ p g', (applyTrim 1 max (L ++ [g]))[p]? = some g' →
      g' ≤ hd' ∧ hd' + p + 1 ≤ g' + A + (applyTrim 1 max (L ++ [g])).length := by
  rw [applyTrim_one, List.length_drop, List.length_append, List.length_singleton]
  refine ⟨by omega, fun p g' hp => ?_⟩
  rw [List.getElem?_drop, List.getElem?_append] at hp
  split at hp
  · obtain ⟨a1, a2⟩ := h _ _ hp
    omega
  · obtain ⟨hlt, he⟩ := List.getElem?_eq_some_iff.mp hp
    simp only [List.length_singleton, List.getElem_singleton] at hlt he
    subst he
    omega

/-- the out-queue once the acknowledgement `g` is cached and `out` is the chunks from `hd'` on
    (`hd' = hd + 1` when `g` names the head, `hd' = hd` otherwise: `LinkInv.updateAcked`) -/
theorem LinkInv.ack_to (h : LinkInv c s A Bd o i) {g hd' : Nat}
    (e1 : o.hd ≤ hd') (e2 : hd' ≤ o.hd + 1) (e3 : hd' ≤ i.cnt) (e4 : g ≤ hd') (e5 : i.cnt ≤ g + A) {o' : OutQ}
    (ho : o' = { o with out := pk s hd' (o.W.drop hd'), acked := applyTrim 1 c.max (o.acked ++ [ackv s g]),
                        ackIdx := applyTrim 1 c.max (o.ackIdx ++ [g]) }) :
    LinkInv c s A Bd o' i ∧ o'.hd = hd' := by
  have hlen : o'.out.length = o.nW - hd' := by rw [ho, pk_length, List.length_drop, h.W_len]
  have hhd : o'.hd = hd' := by
    unfold OutQ.hd
    rw [hlen, ho]
    exact Nat.sub_sub_self (Nat.le_trans e3 h.hrn)
  obtain ⟨k1, k2⟩ := idx_step (max := c.max) h.hidx e4 (Nat.le_trans e3 e5) e1 e2
  have := h.out_len; have := h.hB
  subst ho
  exact ⟨{ h with
    hlen := hlen ▸ Nat.sub_le _ _
    hout := by rw [hhd]; rfl
    hacked := show applyTrim 1 c.max (o.acked ++ [ackv s g]) = (applyTrim 1 c.max (o.ackIdx ++ [g])).map (ackv s) by
      rw [← applyTrim_map, h.hacked, List.map_append]; rfl
    hidx := by rw [hhd]; exact k2
    hackl := k1
    hr1 := by rw [hhd]; exact e3
    hr2 := by rw [hhd]; exact Nat.le_trans h.hr2 (Nat.succ_le_succ e1)
    hB := by rw [hlen]; omega }, hhd⟩

theorem LinkInv.updateAcked (h : LinkInv c s A Bd o i) (hc : Consts c A Bd) {g : Nat}
    (hg1 : g ≤ i.cnt) (hg2 : i.cnt ≤ g + A) :
    LinkInv c s A Bd (o.updateAcked c (ackv s g) g) i ∧
    (o.updateAcked c (ackv s g) g).WR = o.WR ∧
    o.hd ≤ (o.updateAcked c (ackv s g) g).hd ∧ (o.updateAcked c (ackv s g) g).hd ≤ o.hd + 1 ∧
    (g = o.hd + 1 → (o.updateAcked c (ackv s g) g).hd = o.hd + 1) := by
  by_cases hmem : ackv s g ∈ o.acked
  · -- a cached value is the ack of an index ≤ hd, so not of hd + 1
    rw [updateAcked_of_mem g hmem]
    refine ⟨h, rfl, Nat.le_refl _, Nat.le_succ _, fun hg => ?_⟩
    obtain ⟨g', he, h1, h2⟩ := h.acked_mem hmem
    have hbd := hc.bound
    have := ackv_inj he (by omega) (by omega)
    omega
  · rw [updateAcked_of_not_mem g hmem, hc.trim, cleanOut_none (h.no_match hc)]
    by_cases hg : g = o.hd + 1
    · -- the head of `out` is acknowledged and goes
      have hlt : o.hd < o.W.length := by have := h.hrn; rw [h.W_len]; omega
      have ho : eraseFirstSeq (ackv s g) o.out = pk s (o.hd + 1) (o.W.drop (o.hd + 1)) := by
        rw [h.hout, List.drop_eq_getElem_cons hlt, hg, ackv_succ]; exact eraseFirstSeq_head _ rfl
      rw [ho]
      obtain ⟨l, hhd⟩ := h.ack_to (hd' := o.hd + 1) (Nat.le_succ _) (Nat.le_refl _) (hg ▸ hg1) (Nat.le_of_eq hg) hg2 rfl
      exact ⟨l, rfl, Nat.le_trans (Nat.le_succ _) (Nat.le_of_eq hhd.symm), Nat.le_of_eq hhd, fun _ => hhd⟩
    · -- an old acknowledgement: nothing in `out` matches it
      have hle : g ≤ o.hd := by have := h.hr2; omega
      have hyoung : o.hd + 1 ≤ g + A + c.max := by have := h.hr1; have := hc.max1; omega
      have ho : eraseFirstSeq (ackv s g) o.out = pk s o.hd (o.W.drop o.hd) := by
        rw [eraseFirstSeq_none (h.out_ne_ack hc hle hyoung)]; exact h.hout
      rw [ho]
      obtain ⟨l, hhd⟩ := h.ack_to (Nat.le_refl _) (Nat.le_succ _) h.hr1 hle hg2 rfl
      exact ⟨l, rfl, Nat.le_of_eq hhd.symm, Nat.le_trans (Nat.le_of_eq hhd) (Nat.le_succ _),
        fun hg' => absurd hg' hg⟩

/-- `UpdateAcked` moves the head index forward by at most one … -/
theorem LinkInv.updateAcked_hd (h : LinkInv c s A Bd o i) (hc : Consts c A Bd) {g : Nat}
    (hg1 : g ≤ i.cnt) (hg2 : i.cnt ≤ g + A) :
    o.hd ≤ (o.updateAcked c (ackv s g) g).hd ∧ (o.updateAcked c (ackv s g) g).hd ≤ o.hd + 1 :=
  have ⟨_, _, h1, h2, _⟩ := h.updateAcked hc hg1 hg2
  ⟨h1, h2⟩

/-- … and by exactly one when the acknowledgement names the head -/
theorem LinkInv.updateAcked_head (h : LinkInv c s A Bd o i) (hc : Consts c A Bd) {g : Nat}
    (hg1 : g ≤ i.cnt) (hg2 : i.cnt ≤ g + A) (hg : g = o.hd + 1) : (o.updateAcked c (ackv s g) g).hd = o.hd + 1 :=
  (h.updateAcked hc hg1 hg2).2.2.2.2 hg

theorem LinkInv.append (h : LinkInv c s A Bd o i) (hc : Consts c A Bd) {j : Nat} {p : Pkt}
    (hp : PktIs s o j p) (hj1 : j ≤ o.hd) (hj2 : i.cnt ≤ j + 1 + A) :
    LinkInv c s A Bd o (i.append c (some p)).1 ∧
    i.cnt ≤ (i.append c (some p)).1.cnt ∧ (i.append c (some p)).1.cnt ≤ i.cnt + 1 := by
  obtain ⟨d, hd, hp⟩ := hp
  have hps : p.seq = seqOf s j := by rw [hp]
  have hbd := hc.bound; have hr1 := h.hr1; have hW := h.W_len
  have hjn : j < o.W.length := (List.getElem?_eq_some_iff.mp hd).1
  by_cases h1 : p.seq ∈ i.acked
  · rw [InQ.append_dup h1]; exact ⟨h, Nat.le_refl _, Nat.le_succ _⟩
  · by_cases h2 : p.seq = i.next
    · -- in order: j = r
      obtain rfl : j = i.cnt := seqOf_inj (hps.symm.trans (h2.trans h.hinext)) (by omega) (by omega)
      rw [InQ.append_next_nil h1 h2 h.hfut]
      exact ⟨{ h with
        hinext := show (i.next + 1) % MOD = seqOf s (i.cnt + 1) by rw [h.hinext, seqOf_succ]
        hrel := show (i.appendPacket p).rel = (o.W.take (i.cnt + 1)).flatten by
          rw [InQ.rel_appendPacket, h.hrel, List.take_add_one, hd, hp]; simp
        hr1 := Nat.le_succ_of_le hr1
        hr2 := Nat.succ_le_succ hj1
        hrn := hW ▸ hjn }, Nat.le_succ _, Nat.le_refl _⟩
    · -- a packet of the past is never inside the acceptance window
      have hlt : j < i.cnt := by
        rcases Nat.lt_or_ge j i.cnt with hl | hg
        · exact hl
        · exact absurd (by rw [hps, h.hinext, show j = i.cnt by omega]) h2
      rw [InQ.append_far h1 h2, hps, inWindowL_eq c (seqOf_lt s j), h.hinext,
        inWindow_behind hc.wlo hc.whi hc.max1 hlt (by omega)]
      exact ⟨h, Nat.le_refl _, Nat.le_succ _⟩

theorem LinkInv.prefix {s A : Nat} {o : OutQ} {i : InQ} (l : LinkInv c s A Bd o i) :
    i.rel <+: o.W.flatten := by
  rw [l.hrel]
  exact take_flatten_prefix _ _

theorem LinkInv.drained (l : LinkInv c s A Bd o i) (h : o.out = []) : i.rel = o.W.flatten := by
  have := l.hr1; have := l.out_len; have := l.W_len
  rw [l.hrel, List.take_of_length_le (by rw [h] at *; simp at *; omega)]

end link

/-- `acked` of the receiver = sequence numbers of the chunks with index `cnt - L … cnt - 1`,
    `L = min cnt Max` -/
def InAck (c : Cfg) (s : Nat) (i : InQ) : Prop :=
  i.acked = (List.range' (i.cnt - min i.cnt c.max) (min i.cnt c.max)).map (seqOf s)

theorem InAck.mem_iff {c : Cfg} {s : Nat} {i : InQ} (h : InAck c s i) {v : Nat} :
    v ∈ i.acked ↔ ∃ j, j < i.cnt ∧ i.cnt ≤ j + c.max ∧ v = seqOf s j := by
  rw [h, List.mem_map]
  constructor
  · rintro ⟨j, hj, rfl⟩
    rw [List.mem_range'_1] at hj
    exact ⟨j, by omega, by omega, rfl⟩
  · rintro ⟨j, h1, h2, rfl⟩
    exact ⟨j, List.mem_range'_1.mpr (by omega), rfl⟩

theorem InAck.not_next {c : Cfg} {s : Nat} {i : InQ} (h : InAck c s i) (hm : c.max < MOD) :
    seqOf s i.cnt ∉ i.acked := by
  intro hmem
  obtain ⟨j, h1, h2, h3⟩ := h.mem_iff.mp hmem
  have := seqOf_inj h3 (by omega) (by omega)
  omega

theorem InAck.last_mem {c : Cfg} {s : Nat} {i : InQ} (h : InAck c s i) (hm : 1 ≤ c.max) {j : Nat}
    (hj : j + 1 = i.cnt) : seqOf s j ∈ i.acked :=
  h.mem_iff.mpr ⟨j, by omega, by omega, rfl⟩

theorem trim2_range (max cnt : Nat) :
    applyTrim 2 max (List.range' (cnt - min cnt max) (min cnt max + 1)) =
      List.range' (cnt + 1 - min (cnt + 1) max) (min (cnt + 1) max) := by
  rw [applyTrim_two, List.length_range']
  by_cases h : max ≤ cnt
  · rw [Nat.min_eq_right h, Nat.min_eq_right (Nat.le_succ_of_le h), if_pos (Nat.lt_succ_self _), List.range'_succ,
      List.drop_one, List.tail_cons, show cnt - max + 1 = cnt + 1 - max by omega]
  · rw [Nat.min_eq_left (by omega), Nat.min_eq_left (by omega), if_neg (by omega), Nat.sub_self, Nat.sub_self]

/-- `Append` keeps the cache characterisation as long as nothing is parked in `future` -/
theorem InAck.append {c : Cfg} {s : Nat} {i : InQ} (hi : InAck c s i) (ht : c.inTrim = 2)
    (hnext : i.next = seqOf s i.cnt) (hfut : i.future = []) (op : Option Pkt)
    (hpost : (i.append c op).1.future = []) : InAck c s (i.append c op).1 := by
  cases op with
  | none => exact hi
  | some p =>
    by_cases h1 : p.seq ∈ i.acked
    · rw [InQ.append_dup h1]; exact hi
    · by_cases h2 : p.seq = i.next
      · rw [InQ.append_next_nil h1 h2 hfut]
        show applyTrim c.inTrim c.max (i.acked ++ [p.seq]) =
          (List.range' (i.cnt + 1 - min (i.cnt + 1) c.max) (min (i.cnt + 1) c.max)).map (seqOf s)
        rw [h2, hnext, hi, ht, ← trim2_range, ← applyTrim_map, List.range'_concat, List.map_append]
        simp [show i.cnt - min i.cnt c.max + min i.cnt c.max = i.cnt by omega]
      · rw [InQ.append_far h1 h2] at hpost ⊢
        split
        · rw [if_pos (by assumption)] at hpost; simp [hfut] at hpost
        · exact hi

/-- one direction of the tunnel: the link invariant, the source facts it is kept under, and what the receiver's
    duplicate cache holds when the in-order branch trims it oldest first (`inTrim = 2`; used for progress only,
    safety does not look at it) -/
structure Link (c : Cfg) (s A Bd : Nat) (o : OutQ) (i : InQ) : Prop extends LinkInv c s A Bd o i where
  consts : Consts c A Bd
  cache : c.inTrim = 2 → InAck c s i

theorem init_Link {c : Cfg} {s A Bd : Nat} (hc : Consts c A Bd) (hs : s < MOD) :
    Link c s A Bd { next := s } { next := s } :=
  ⟨⟨rfl, Nat.le_refl _, (seqOf_zero hs).symm, rfl, rfl, fun p g hp => by simp at hp, Nat.zero_le _,
      (seqOf_zero hs).symm, rfl, rfl, Nat.le_refl _, Nat.le_succ _, Nat.le_refl _, Nat.zero_le _⟩,
    hc, fun _ => by simp [InAck]⟩

/-- at rest `cleanAckedChunks` finds nothing to do -/
theorem Link.clean_eq {c : Cfg} {s A Bd : Nat} {o : OutQ} {i : InQ} (l : Link c s A Bd o i) : o.clean c = o :=
  clean_noop (cleanOut_none (l.no_match l.consts)) (by rw [l.hacked, List.length_map]; exact l.hackl) l.hackl

/-- two endpoints joined by a link in each direction (`sOut` numbers the chunks of `e`, `sIn` those of `pe`), each
    having accepted exactly the chunks it has queued so far -/
structure Joined (c : Cfg) (sOut sIn A Bd : Nat) (e pe : End) : Prop where
  fwd : Link c sOut A Bd e.outq pe.inq
  bwd : Link c sIn A Bd pe.outq e.inq
  acc : e.acc = e.outq.W.flatten
  pacc : pe.acc = pe.outq.W.flatten

theorem Joined.symm {c : Cfg} {sOut sIn A Bd : Nat} {e pe : End} (j : Joined c sOut sIn A Bd e pe) :
    Joined c sIn sOut A Bd pe e := ⟨j.bwd, j.fwd, j.pacc, j.acc⟩

section recv
variable {c : Cfg} {sOut sIn A Bd : Nat}

/-- A message is a `Query`: acknowledgement and packet with their ghost indices; a response carries the same four.
    This is the message endpoint `e` would send right now. -/
def End.msg (c : Cfg) (e : End) : Query := ⟨ackOf c e.inq.next, e.outq.out.head?, e.inq.cnt, e.outq.hd⟩

/-- `m` was produced by endpoint `e` at most `A` steps ago, `m.gAck` and `m.gPkt` being its release count and head
    index then.  Queries kept in `hist`, fresh queries and responses are all of this kind.
    `sAck` numbers the chunks `m.ack` acknowledges (those of `e`'s peer, who is to receive `m`), `sPkt` the chunks
    `m.pkt` is one of (`e`'s own).  So under `Joined c sOut sIn A Bd e pe` a message of `pe` is `MsgOk sOut sIn … pe`
    (`recv_inv`) and one of `e` is `MsgOk sIn sOut … e` (`fresh_msg`). -/
structure MsgOk (sAck sPkt A : Nat) (e : End) (m : Query) : Prop where
  hack : m.ack = ackv sAck m.gAck
  hg1 : m.gAck ≤ e.inq.cnt
  hg2 : e.inq.cnt ≤ m.gAck + A
  hpkt : ∀ p, m.pkt = some p → PktIs sPkt e.outq m.gPkt p ∧ m.gPkt ≤ e.outq.hd ∧ e.outq.hd ≤ m.gPkt + A

/-- how far an endpoint has moved while handling messages: nothing new accepted or queued, head index and
    release count forward by at most `n` -/
structure Adv (n : Nat) (e e' : End) : Prop where
  wr : e'.outq.WR = e.outq.WR
  acc : e'.accR = e.accR
  hd : e.outq.hd ≤ e'.outq.hd
  hd' : e'.outq.hd ≤ e.outq.hd + n
  cnt : e.inq.cnt ≤ e'.inq.cnt
  cnt' : e'.inq.cnt ≤ e.inq.cnt + n

variable {e e' e'' pe : End} {m : Query} {n k sAck sPkt : Nat}

/-- what each end has released is a prefix of what the other has accepted -/
theorem Joined.safe (j : Joined c sOut sIn A Bd e pe) : pe.inq.rel <+: e.acc ∧ e.inq.rel <+: pe.acc :=
  ⟨j.acc ▸ j.fwd.prefix, j.pacc ▸ j.bwd.prefix⟩

/-- … and all of it once the other's out-queue is empty -/
theorem Joined.drained (j : Joined c sOut sIn A Bd e pe) :
    (e.outq.out = [] → pe.inq.rel = e.acc) ∧ (pe.outq.out = [] → e.inq.rel = pe.acc) :=
  ⟨fun h => j.acc ▸ j.fwd.drained h, fun h => j.pacc ▸ j.bwd.drained h⟩

theorem Adv.refl (e : End) : Adv n e e :=
  ⟨rfl, rfl, Nat.le_refl _, Nat.le_add_right _ _, Nat.le_refl _, Nat.le_add_right _ _⟩

theorem Adv.mono (h : Adv n e e') (hn : n ≤ k) : Adv k e e' :=
  ⟨h.wr, h.acc, h.hd, by have := h.hd'; omega, h.cnt, by have := h.cnt'; omega⟩

theorem Adv.trans (h : Adv n e e') (h' : Adv k e' e'') : Adv (n + k) e e'' :=
  ⟨h'.wr.trans h.wr, h'.acc.trans h.acc, Nat.le_trans h.hd h'.hd, by have := h.hd'; have := h'.hd'; omega,
    Nat.le_trans h.cnt h'.cnt, by have := h.cnt'; have := h'.cnt'; omega⟩

theorem acc_of (h : e.acc = e.outq.W.flatten) (a : Adv n e e') : e'.acc = e'.outq.W.flatten := by
  rw [End.acc_congr a.acc, h]
  unfold OutQ.W
  rw [a.wr]

theorem PktIs.mono_app {s : Nat} {o o' : OutQ} {j : Nat} {p : Pkt} (h : PktIs s o j p)
    {cs : List (List Nat)} (hw : o'.WR = cs ++ o.WR) : PktIs s o' j p := by
  obtain ⟨d, hd, hp⟩ := h
  refine ⟨d, ?_, hp⟩
  unfold OutQ.W at *
  rw [hw, List.reverse_append, List.getElem?_append_left (List.getElem?_eq_some_iff.mp hd).1]; exact hd

/-- a message ages by as much as its sender moves; chunks the sender adds meanwhile do not matter -/
theorem MsgOk.move (h : MsgOk sAck sPkt A e m)
    {cs : List (List Nat)} (hw : e'.outq.WR = cs ++ e.outq.WR)
    (c1 : e.inq.cnt ≤ e'.inq.cnt) (c2 : e'.inq.cnt ≤ e.inq.cnt + n)
    (d1 : e.outq.hd ≤ e'.outq.hd) (d2 : e'.outq.hd ≤ e.outq.hd + n) : MsgOk sAck sPkt (A + n) e' m := by
  refine ⟨h.hack, by have := h.hg1; omega, by have := h.hg2; omega, fun p hp => ?_⟩
  obtain ⟨x, y, z⟩ := h.hpkt p hp
  exact ⟨x.mono_app hw, by omega, by omega⟩

theorem MsgOk.grow (h : MsgOk sAck sPkt A e m) (a : Adv n e e') : MsgOk sAck sPkt (A + n) e' m :=
  h.move (cs := []) a.wr a.cnt a.cnt' a.hd a.hd'

theorem MsgOk.mono {A' : Nat} (h : MsgOk sAck sPkt A e m) (hA : A ≤ A') : MsgOk sAck sPkt A' e m := by
  obtain ⟨n, rfl⟩ : ∃ n, A' = A + n := ⟨A' - A, by omega⟩
  exact h.grow (Adv.refl e)

theorem head_pktIs {s : Nat} {o : OutQ} {i : InQ} (l : LinkInv c s A Bd o i) {p : Pkt}
    (hp : o.out.head? = some p) : PktIs s o o.hd p := by
  rw [l.hout, pk_head?, List.head?_drop] at hp
  obtain ⟨d, hd, rfl⟩ := Option.map_eq_some_iff.mp hp
  exact ⟨d, hd, rfl⟩

theorem fresh_msg (j : Joined c sOut sIn A Bd e pe) : MsgOk sIn sOut 0 e (e.msg c) :=
  ⟨show ackOf c e.inq.next = ackv sIn e.inq.cnt by rw [j.bwd.hinext, ackOf_seqOf j.bwd.consts.ack], Nat.le_refl _,
    Nat.le_refl _, fun _ hp => ⟨head_pktIs j.fwd.toLinkInv hp, Nat.le_refl _, Nat.le_refl _⟩⟩

/-- `UpdateAcked(ack); Append(pkt)`: what `serve` and `clientRecv` both do with a message -/
def End.recv (c : Cfg) (e : End) (m : Query) : End :=
  { e with outq := e.outq.updateAcked c m.ack m.gAck, inq := (e.inq.append c m.pkt).1 }

theorem recv_inv (j : Joined c sOut sIn A Bd e pe) (hm : MsgOk sOut sIn A pe m) :
    Joined c sOut sIn A Bd (e.recv c m) pe ∧ Adv 1 e (e.recv c m) := by
  obtain ⟨lout, lin, hacc, hpacc⟩ := j
  unfold End.recv
  rw [hm.hack]
  have lout' := (lout.toLinkInv.updateAcked lout.consts hm.hg1 hm.hg2).1
  obtain ⟨d1, d2⟩ := lout.toLinkInv.updateAcked_hd lout.consts hm.hg1 hm.hg2
  obtain ⟨lin', c1, c2⟩ : LinkInv c sIn A Bd pe.outq (e.inq.append c m.pkt).1 ∧
      e.inq.cnt ≤ (e.inq.append c m.pkt).1.cnt ∧ (e.inq.append c m.pkt).1.cnt ≤ e.inq.cnt + 1 := by
    cases hp : m.pkt with
    | none => exact ⟨lin.toLinkInv, Nat.le_refl _, Nat.le_succ _⟩
    | some p =>
      obtain ⟨hp, hj1, hj2⟩ := hm.hpkt p hp
      have := lin.hr2
      exact lin.toLinkInv.append lin.consts hp hj1 (by omega)
  have adv : Adv 1 e { e with outq := e.outq.updateAcked c (ackv sOut m.gAck) m.gAck, inq := (e.inq.append c m.pkt).1 } :=
    ⟨updateAcked_WR .., rfl, d1, d2, c1, c2⟩
  exact ⟨⟨⟨lout', lout.consts, lout.cache⟩,
      ⟨lin', lin.consts, fun ht => (lin.cache ht).append ht lin.hinext lin.hfut m.pkt lin'.hfut⟩,
      acc_of hacc adv, hpacc⟩, adv⟩

end recv

/-- what a response promises, relative to the state of B that produced it `A` steps ago -/
def RespOk (sab sba A : Nat) (b : End) : Resp → Prop
  | .err => True
  | .ok ack pkt g j => MsgOk sab sba A b ⟨ack, pkt, g, j⟩

structure SysInv (c : Cfg) (sab sba K Bd : Nat) (st : Sys) : Prop extends Joined c sab sba (K + 1) Bd st.a st.b where
  /-- the query stored `k` exchanges ago is at most `k + 1` steps of A old -/
  hist : ∀ k q, st.hist[k]? = some q → MsgOk sba sab (k + 1) st.a q

section sys
variable {c : Cfg} {sab sba A K Bd : Nat}

theorem RespOk.grow {b b' : End} {r : Resp} {n A' : Nat} (h : RespOk sab sba A b r) (a : Adv n b b')
    (hA : A + n ≤ A') : RespOk sab sba A' b' r := by
  cases r with
  | err => trivial
  | ok ack pkt g j => exact (MsgOk.grow h a).mono hA

/-- `ServerDnsListener.packet` on a valid query: the queues do what `End.recv` says (the extra
    `cleanAckedChunks` finds nothing), and the response is a fresh message of the new state -/
theorem serve_inv {a b : End} {q : Query} (j : Joined c sab sba A Bd a b) (hm : MsgOk sba sab A a q) :
    Joined c sab sba A Bd a (serve c b q).1 ∧ Adv 1 b (serve c b q).1 ∧
    RespOk sab sba 0 (serve c b q).1 (serve c b q).2 := by
  obtain ⟨h1, h2⟩ := recv_inv j.symm hm
  cases hok : (b.inq.append c q.pkt).2 with
  | true =>
    have hcl : (b.outq.updateAcked c q.ack q.gAck).clean c = b.outq.updateAcked c q.ack q.gAck := h1.fwd.clean_eq
    rw [serve_ok hok, hcl]
    exact ⟨h1.symm, h2, fresh_msg h1⟩
  | false =>
    rw [serve_err hok]
    simp only [End.recv, InQ.append_false hok] at h1 h2
    exact ⟨h1.symm, h2, trivial⟩

theorem clientRecv_inv {a b : End} {r : Resp} (j : Joined c sab sba A Bd a b) (hr : RespOk sab sba A b r) :
    Joined c sab sba A Bd (clientRecv c a r).1 b ∧ Adv 1 a (clientRecv c a r).1 := by
  cases r with
  | err => exact ⟨j, Adv.refl a⟩
  | ok ack pkt g gp => exact recv_inv j hr

/-- `NextChunk` finds nothing to clean: the query is the client's message of the moment -/
theorem mkQuery_eq {e : End} {s : Nat} {i : InQ} (l : Link c s A Bd e.outq i) : mkQuery c e = (e, e.msg c) := by
  rw [mkQuery_clean, l.clean_eq]; rfl

def Fate.Ok (K : Nat) : Fate → Prop
  | .rp k => k ≤ K
  | _ => True

theorem hist_push {a a' : End} {hist : List Query} {q0 : Query}
    (hh : ∀ k q, hist[k]? = some q → MsgOk sba sab (k + 1) a q) (h0 : MsgOk sba sab 0 a q0) (ad : Adv 1 a a') :
    ∀ k q, (q0 :: hist)[k]? = some q → MsgOk sba sab (k + 1) a' q := by
  intro k q hq
  cases k with
  | zero => obtain rfl : q0 = q := by simpa using hq
            exact h0.grow ad
  | succ k => exact (hh k q (by simpa using hq)).grow ad

/-- every fate keeps the invariant; A handles at most one message and B at most two -/
theorem xchg_inv {st : Sys} (h : SysInv c sab sba K Bd st) (f : Fate) (hf : f.Ok K) :
    SysInv c sab sba K Bd (xchgS c st f) ∧ Adv 1 st.a (xchgS c st f).a ∧ Adv 2 st.b (xchgS c st f).b := by
  have hq0 : MsgOk sba sab 0 st.a (st.a.msg c) := fresh_msg h.toJoined
  have hmsg0 := hq0.mono (Nat.zero_le (K + 1))
  have a0 : Adv 1 st.a st.a := Adv.refl _
  cases f with
  | rp k =>
    simp only [xchgS]
    cases hk : st.hist[k]? with
    | none => exact ⟨h, a0, Adv.refl _⟩
    | some q =>
      obtain ⟨j1, sb, _⟩ := serve_inv h.toJoined ((h.hist k q hk).mono (Nat.succ_le_succ hf))
      exact ⟨⟨j1, h.hist⟩, a0, sb.mono (by omega)⟩
  | ql =>
    simp only [xchgS, mkQuery_eq h.fwd]
    exact ⟨⟨h.toJoined, hist_push h.hist hq0 a0⟩, a0, Adv.refl _⟩
  | al =>
    simp only [xchgS, mkQuery_eq h.fwd]
    obtain ⟨j1, sb, _⟩ := serve_inv h.toJoined hmsg0
    exact ⟨⟨j1, hist_push h.hist hq0 a0⟩, a0, sb.mono (by omega)⟩
  | d =>
    simp only [xchgS, mkQuery_eq h.fwd]
    obtain ⟨j1, sb, sr⟩ := serve_inv h.toJoined hmsg0
    obtain ⟨j2, ra⟩ := clientRecv_inv j1 (sr.grow (n := 0) (Adv.refl _) (Nat.zero_le _))
    exact ⟨⟨j2, hist_push h.hist hq0 ra⟩, ra, sb.mono (by omega)⟩
  | dup1 =>
    -- the first answer is one step of B old when A gets it
    simp only [xchgS, mkQuery_eq h.fwd]
    obtain ⟨j1, sb, sr⟩ := serve_inv h.toJoined hmsg0
    obtain ⟨j2, tb, _⟩ := serve_inv j1 hmsg0
    obtain ⟨j3, ra⟩ := clientRecv_inv j2 (sr.grow tb (by omega))
    exact ⟨⟨j3, hist_push h.hist hq0 ra⟩, ra, sb.trans tb⟩
  | dup2 =>
    simp only [xchgS, mkQuery_eq h.fwd]
    obtain ⟨j1, sb, _⟩ := serve_inv h.toJoined hmsg0
    obtain ⟨j2, tb, tr⟩ := serve_inv j1 hmsg0
    obtain ⟨j3, ra⟩ := clientRecv_inv j2 (tr.grow (n := 0) (Adv.refl _) (Nat.zero_le _))
    exact ⟨⟨j3, hist_push h.hist hq0 ra⟩, ra, sb.trans tb⟩

end sys

section hist
variable {c : Cfg} {sab sba K Bd : Nat}

theorem addChunks_inv {s A : Nat} {i : InQ} : ∀ (cs : List (List Nat)) (o : OutQ), LinkInv c s A Bd o i →
    o.out.length + cs.length ≤ Bd → LinkInv c s A Bd (cs.foldl OutQ.addChunk o) i
  | [], _, h, _ => h
  | d :: ds, o, h, hb => by
    simp only [List.length_cons] at hb
    exact addChunks_inv ds (o.addChunk d) (h.addChunk d (by omega))
      (by rw [addChunk_out, List.length_append, List.length_singleton]; omega)

def evOk (mtu K Bd : Nat) : Ev → Bool
  | .write _ data => decide ((chunks mtu data).length ≤ Bd)
  | .read _ _ => true
  | .xchg (.rp k) => decide (k ≤ K)
  | .xchg _ => true
  | .inject _ _ _ => false
  | .fack _ _ => false

theorem Fate.ok_of_evOk {mtu K Bd : Nat} {f : Fate} (h : evOk mtu K Bd (.xchg f) = true) : f.Ok K := by
  cases f with
  | rp k => exact (of_decide_eq_true h : k ≤ K)
  | _ => trivial

theorem MsgOk.writeEnd {sAck sPkt A : Nat} {e : End} {m : Query} (h : MsgOk sAck sPkt A e m) (mtu : Nat)
    (data : List Nat) : MsgOk sAck sPkt A (writeEnd mtu e data) m := by
  obtain ⟨⟨cs, hw⟩, hh⟩ := writeEnd_WR mtu e data
  have hi := writeEnd_inq mtu e data
  exact h.move (n := 0) hw (by rw [hi]; exact Nat.le_refl _) (by rw [hi]; exact Nat.le_refl _)
    (by rw [hh]; exact Nat.le_refl _) (by rw [hh]; exact Nat.le_refl _)

theorem Joined.write {sOut sIn A : Nat} {e pe : End} (j : Joined c sOut sIn A Bd e pe) {mtu : Nat} (hm : 0 < mtu)
    {data : List Nat} (hb : (chunks mtu data).length ≤ Bd) : Joined c sOut sIn A Bd (writeEnd mtu e data) pe := by
  by_cases hnil : e.outq.out = []
  · have hw := writeEnd_idle (mtu := mtu) (data := data) hnil
    refine ⟨?_, (writeEnd_inq mtu e data).symm ▸ j.bwd, ?_, j.pacc⟩
    · rw [hw]
      exact ⟨addChunks_inv _ _ j.fwd.toLinkInv (by rw [hnil]; simpa using hb), j.fwd.consts, j.fwd.cache⟩
    · rw [writeEnd_acc hnil, hw, j.acc]
      show _ = (OutQ.W (List.foldl OutQ.addChunk e.outq (chunks mtu data))).flatten
      unfold OutQ.W
      rw [(addChunks_WR _ _).1]
      simp [chunks_flatten hm]
  · rw [writeEnd_busy hnil]
    exact j

/-- a read takes bytes out of `buf`, which the invariant does not mention -/
theorem Link.readEnd {s A : Nat} {o : OutQ} {e : End} (l : Link c s A Bd o e.inq) (n : Nat) :
    Link c s A Bd o (readEnd e n).inq := by
  obtain ⟨b, hb⟩ := readEnd_eq e n
  rw [hb]
  exact ⟨{ l.toLinkInv with hinext := l.hinext, hrel := l.hrel, hfut := l.hfut, hr1 := l.hr1, hr2 := l.hr2,
                              hrn := l.hrn }, l.consts, l.cache⟩

theorem readEnd_adv (e : End) (n : Nat) : Adv 0 e (readEnd e n) := by
  obtain ⟨b, hb⟩ := readEnd_eq e n
  rw [hb]
  exact ⟨rfl, rfl, Nat.le_refl _, Nat.le_refl _, Nat.le_refl _, Nat.le_refl _⟩

theorem Joined.read {sOut sIn A : Nat} {e pe : End} (j : Joined c sOut sIn A Bd e pe) (n : Nat) :
    Joined c sOut sIn A Bd (readEnd e n) pe :=
  ⟨(readEnd_outq e n).symm ▸ j.fwd, j.bwd.readEnd n, acc_of j.acc (readEnd_adv e n), j.pacc⟩

/-- writes and reads at B are those at A seen from the other side (`Joined.symm`); only A's messages are kept in
    `hist` -/
theorem step_inv {st : Sys} {mtu : Nat} (hm : 0 < mtu) (h : SysInv c sab sba K Bd st) (ev : Ev)
    (hev : evOk mtu K Bd ev = true) : SysInv c sab sba K Bd (stepS c mtu st ev) := by
  cases ev with
  | write side data =>
    have hb : (chunks mtu data).length ≤ Bd := by simpa [evOk] using hev
    cases side with
    | false => exact ⟨h.toJoined.write hm hb, fun k q hq => (h.hist k q hq).writeEnd mtu data⟩
    | true => exact ⟨(h.toJoined.symm.write hm hb).symm, h.hist⟩
  | read side n =>
    cases side with
    | false => exact ⟨h.toJoined.read n, fun k q hq => (h.hist k q hq).grow (readEnd_adv _ n)⟩
    | true => exact ⟨(h.toJoined.symm.read n).symm, h.hist⟩
  | xchg f => exact (xchg_inv h f (Fate.ok_of_evOk hev)).1
  | inject _ _ _ => simp [evOk] at hev
  | fack _ _ => simp [evOk] at hev

theorem run_inv {mtu : Nat} (hm : 0 < mtu) {st : Sys} (h : SysInv c sab sba K Bd st) (evs : List Ev)
    (hall : evs.all (evOk mtu K Bd) = true) : SysInv c sab sba K Bd (runS c mtu st evs) :=
  (runS_skipRun c mtu).induct_total (P := SysInv c sab sba K Bd) (Q := fun e => evOk mtu K Bd e = true)
    (fun he h => step_inv hm h _ he) h evs
    (List.all_eq_true.mp hall)

theorem init_inv (hc : Consts c (K + 1) Bd) (hsab : sab < MOD) (hsba : sba < MOD) :
    SysInv c sab sba K Bd (init sab sba) :=
  ⟨⟨init_Link hc hsab, init_Link hc hsba, rfl, rfl⟩, fun k q hq => by simp [init] at hq⟩

end hist

end SA.Queue
