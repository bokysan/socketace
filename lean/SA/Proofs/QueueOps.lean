/-
  SA.Proofs.QueueOps — what each operation of the queue model (SA.Model.Queue) does, case by case, with no invariant
  assumed.  The invariants (SA.Proofs.Queue), the wrap run (SA.Proofs.QueueWrap), the multi-write model
  (SA.Proofs.DnsWrites) and the refinement of the server's queues (SA.Proofs.DnsServerRefine) use the operations
  through these equations.  What they still open themselves: the functions defined by cases on an event or a fate
  (`stepS`, `xchgS`, `clientRecv`, `bstep`; `runS` on a list given by its elements), through their defining equations
  (`simp only [xchgS]` at a given fate); the ghost accessors (`OutQ.W`, `OutQ.hd`, `End.acc`, `InQ.rel`); and the
  fields of the record that `addChunk` / `appendPacket` build, by `show`.
-/
import SA.Model.Queue
import SA.Proofs.Run
import SA.Proofs.Pieces

namespace SA.Queue

/-! the regenerated source facts, one by one (`Cfg.gen` reads them from `SA.Gen.c07*`); each fails to compile when
    its fact changes -/

theorem Cfg.gen_max : Cfg.gen.max = 128 := rfl
theorem Cfg.gen_outTrim : Cfg.gen.outTrim = 1 := rfl
theorem Cfg.gen_inTrim : Cfg.gen.inTrim = 2 := rfl
theorem Cfg.gen_wlo : Cfg.gen.wlo = 1 := rfl
theorem Cfg.gen_whi : Cfg.gen.whi = 128 := rfl
theorem Cfg.gen_ackOff : Cfg.gen.ackOff = 1 := rfl

theorem eraseFirstSeq_eq_eraseP (v : Nat) (l : List Pkt) : eraseFirstSeq v l = l.eraseP (·.seq == v) := by
  induction l with
  | nil => rfl
  | cons p ps ih => by_cases h : p.seq = v <;> simp [eraseFirstSeq, h, ih]

theorem eraseFirstSeq_nil (v : Nat) : eraseFirstSeq v [] = [] := rfl

theorem eraseFirstSeq_head {v : Nat} {p : Pkt} (ps : List Pkt) (h : p.seq = v) : eraseFirstSeq v (p :: ps) = ps :=
  if_pos h

theorem eraseFirstSeq_none {v : Nat} {out : List Pkt} (h : ∀ p ∈ out, p.seq ≠ v) :
    eraseFirstSeq v out = out := by
  rw [eraseFirstSeq_eq_eraseP]; exact List.eraseP_of_forall_not fun p hp => by simpa using h p hp

theorem cleanOut_none {acked : List Nat} {out : List Pkt}
    (h : ∀ v ∈ acked, ∀ p ∈ out, p.seq ≠ v) : cleanOut acked out = out := by
  induction acked with
  | nil => rfl
  | cons v vs ih =>
    simp only [cleanOut, List.foldl_cons]
    rw [eraseFirstSeq_none (h v (by simp))]
    exact ih (fun w hw => h w (by simp [hw]))

theorem cleanOut_snoc (acked : List Nat) (v : Nat) (out : List Pkt) :
    cleanOut (acked ++ [v]) out = eraseFirstSeq v (cleanOut acked out) := by
  simp [cleanOut, List.foldl_append]

theorem cleanOut_nil (acked : List Nat) : cleanOut acked [] = [] := cleanOut_none fun _ _ _ h => nomatch h

theorem cleanOut_single (acked : List Nat) (v : Nat) (d : List Nat) :
    cleanOut acked [⟨v, d⟩] = if v ∈ acked then [] else [⟨v, d⟩] := by
  induction acked with
  | nil => rfl
  | cons w ws ih =>
    rw [show cleanOut (w :: ws) [⟨v, d⟩] = cleanOut ws (eraseFirstSeq w [⟨v, d⟩]) from rfl]
    simp only [eraseFirstSeq, List.mem_cons]
    by_cases hw : v = w
    · rw [if_pos hw, if_pos (Or.inl hw)]; exact cleanOut_nil ws
    · rw [if_neg hw, ih]; simp [hw]

theorem applyTrim_noop {code max : Nat} {l : List Nat} (h : l.length ≤ max) :
    applyTrim code max l = l := by
  simp [applyTrim, Nat.not_lt.mpr h]

theorem applyTrim_map (code max : Nat) (l : List Nat) (f : Nat → Nat) :
    applyTrim code max (l.map f) = (applyTrim code max l).map f := by
  -- every branch is `l`, a `take` or a `drop`
  simp only [applyTrim, List.length_map, apply_ite (List.map f), List.map_take, List.map_drop]

/-- keep-oldest trimming is `take`, whether or not the list is too long -/
theorem applyTrim_zero (max : Nat) (l : List Nat) : applyTrim 0 max l = l.take max := by
  unfold applyTrim
  split
  · rfl
  · exact (List.take_of_length_le (by omega)).symm

/-- keep-newest trimming is `drop`, whether or not the list is too long -/
theorem applyTrim_one (max : Nat) (l : List Nat) : applyTrim 1 max l = l.drop (l.length - max) := by
  unfold applyTrim
  split
  · rfl
  · rw [show l.length - max = 0 by omega]; rfl

theorem applyTrim_two (max : Nat) (l : List Nat) : applyTrim 2 max l = if l.length > max then l.drop 1 else l := rfl

/-! `cleanAckedChunks`, field by field, and when it changes nothing -/

theorem clean_out (c : Cfg) (o : OutQ) : (o.clean c).out = cleanOut o.acked o.out := rfl

theorem clean_acked (c : Cfg) (o : OutQ) : (o.clean c).acked = applyTrim c.outTrim c.max o.acked := rfl

theorem clean_noop {c : Cfg} {o : OutQ} (h : cleanOut o.acked o.out = o.out) (h1 : o.acked.length ≤ c.max)
    (h2 : o.ackIdx.length ≤ c.max) : o.clean c = o := by
  unfold OutQ.clean
  rw [h, applyTrim_noop h1, applyTrim_noop h2]

theorem updateAcked_of_mem {c : Cfg} {o : OutQ} {v : Nat} (g : Nat) (h : v ∈ o.acked) : o.updateAcked c v g = o := by
  unfold OutQ.updateAcked; rw [if_pos h]

theorem updateAcked_eq_clean {c : Cfg} {o : OutQ} {v : Nat} (g : Nat) (h : v ∉ o.acked) :
    o.updateAcked c v g = OutQ.clean c { o with acked := o.acked ++ [v], ackIdx := o.ackIdx ++ [g] } := by
  unfold OutQ.updateAcked; rw [if_neg h]

theorem updateAcked_of_not_mem {c : Cfg} {o : OutQ} {v : Nat} (g : Nat) (h : v ∉ o.acked) :
    o.updateAcked c v g =
      { o with out := eraseFirstSeq v (cleanOut o.acked o.out),
               acked := applyTrim c.outTrim c.max (o.acked ++ [v]),
               ackIdx := applyTrim c.outTrim c.max (o.ackIdx ++ [g]) } := by
  rw [updateAcked_eq_clean g h]; unfold OutQ.clean; simp only [cleanOut_snoc]

theorem updateAcked_WR (c : Cfg) (o : OutQ) (v g : Nat) : (o.updateAcked c v g).WR = o.WR := by
  unfold OutQ.updateAcked; split <;> rfl

/-- `in.NextSeqNo - 1` over uint16 -/
theorem ackOf_one {c : Cfg} (hc : c.ackOff = 1) (next : Nat) : ackOf c next = (next + 65535) % MOD := by
  unfold ackOf; rw [hc, Nat.add_sub_assoc (by decide)]

theorem extractFirst_eq_find (n : Nat) : ∀ l : List Pkt, extractFirst n l =
    (l.find? (·.seq == n)).map fun p => (p, l.eraseP (·.seq == n))
  | [] => rfl
  | p :: ps => by
    unfold extractFirst
    by_cases h : p.seq = n
    · simp [h]
    · rw [if_neg h, extractFirst_eq_find n ps, List.find?_cons_of_neg (by simpa using h),
        List.eraseP_cons_of_neg (by simpa using h)]
      cases ps.find? (·.seq == n) <;> rfl

theorem InQ.drain_succ (f : Nat) (q : InQ) : InQ.drain (f + 1) q =
    match extractFirst q.next q.future with
    | none => q
    | some (p, rest) => InQ.drain f { q.appendPacket p with future := rest } := rfl

theorem InQ.rel_appendPacket (q : InQ) (p : Pkt) : (q.appendPacket p).rel = q.rel ++ p.data := by
  simp [InQ.appendPacket, InQ.rel]

theorem InQ.append_none (c : Cfg) (i : InQ) : i.append c none = (i, true) := rfl

theorem InQ.append_dup {c : Cfg} {i : InQ} {p : Pkt} (h : p.seq ∈ i.acked) : i.append c (some p) = (i, true) := by
  simp only [InQ.append, h, if_true]

/-- in order: the packet is released, its number cached, `future` drained, the cache trimmed -/
theorem InQ.append_next {c : Cfg} {i : InQ} {p : Pkt} (h1 : p.seq ∉ i.acked) (h2 : p.seq = i.next) :
    i.append c (some p) =
      ({ InQ.drain i.future.length { i.appendPacket p with acked := i.acked ++ [p.seq] } with
          acked := applyTrim c.inTrim c.max
            (InQ.drain i.future.length { i.appendPacket p with acked := i.acked ++ [p.seq] }).acked }, true) := by
  simp only [InQ.append, if_neg h1, if_pos h2]
  rfl

theorem InQ.append_next_nil {c : Cfg} {i : InQ} {p : Pkt} (h1 : p.seq ∉ i.acked) (h2 : p.seq = i.next)
    (hf : i.future = []) :
    i.append c (some p) =
      ({ i.appendPacket p with acked := applyTrim c.inTrim c.max (i.acked ++ [p.seq]) }, true) := by
  rw [InQ.append_next h1 h2, hf]
  rfl

theorem InQ.append_far {c : Cfg} {i : InQ} {p : Pkt} (h1 : p.seq ∉ i.acked) (h2 : p.seq ≠ i.next) :
    i.append c (some p) =
      if inWindowL c i.next p.seq then ({ i with future := i.future ++ [p], acked := i.acked ++ [p.seq] }, true)
      else (i, false) := by
  simp only [InQ.append, h1, h2, if_false]

theorem InQ.append_false {c : Cfg} {i : InQ} {op : Option Pkt} (h : (i.append c op).2 = false) :
    (i.append c op).1 = i := by
  cases op with
  | none => rfl
  | some p =>
    by_cases h1 : p.seq ∈ i.acked
    · rw [InQ.append_dup h1]
    · by_cases h2 : p.seq = i.next
      · rw [InQ.append_next h1 h2] at h; cases h
      · rw [InQ.append_far h1 h2] at h ⊢
        split at h
        · cases h
        · rw [if_neg (by assumption)]

theorem serve_ok {c : Cfg} {b : End} {q : Query} (h : (b.inq.append c q.pkt).2 = true) :
    serve c b q =
      ({ b with inq := (b.inq.append c q.pkt).1, outq := (b.outq.updateAcked c q.ack q.gAck).clean c },
       .ok (ackOf c (b.inq.append c q.pkt).1.next) ((b.outq.updateAcked c q.ack q.gAck).clean c).out.head?
         (b.inq.append c q.pkt).1.cnt ((b.outq.updateAcked c q.ack q.gAck).clean c).hd) := by
  unfold serve
  simp only [h, if_true]

theorem serve_err {c : Cfg} {b : End} {q : Query} (h : (b.inq.append c q.pkt).2 = false) :
    serve c b q = ({ b with outq := b.outq.updateAcked c q.ack q.gAck }, .err) := by
  unfold serve
  simp only [h, Bool.false_eq_true, if_false]

theorem serve_accR (c : Cfg) (b : End) (q : Query) : (serve c b q).1.accR = b.accR := by
  unfold serve; simp only []; split <;> rfl

/-- `NextChunk` at the client is `cleanAckedChunks` and the head of what is left -/
theorem mkQuery_clean (c : Cfg) (e : End) :
    mkQuery c e = ({ e with outq := e.outq.clean c },
      ⟨ackOf c e.inq.next, (e.outq.clean c).out.head?, e.inq.cnt, (e.outq.clean c).hd⟩) := rfl

theorem take_flatten_prefix {α : Type} (l : List (List α)) (j : Nat) : (l.take j).flatten <+: l.flatten :=
  ⟨(l.drop j).flatten, by rw [← List.flatten_append, List.take_append_drop]⟩

/-- the chunking loop of `OutQueue.Write` is `pieces` -/
theorem chunksAux_eq_pieces (mtu f : Nat) (b : List Nat) : chunksAux mtu f b = SA.DnsResp.pieces mtu f b := by
  fun_induction chunksAux mtu f b with
  | case1 b => rfl
  | case2 f => simp [SA.DnsResp.pieces]
  | case3 f b hne hlong ih => simp [SA.DnsResp.pieces, hne, ih]
  | case4 f b hne hshort => exact (SA.DnsResp.pieces_short (Nat.succ_pos f) hne (Nat.not_lt.mp hshort)).symm

theorem chunks_nil (mtu : Nat) : chunks mtu [] = [] := rfl

theorem chunks_eq_pieces (mtu : Nat) (b : List Nat) : chunks mtu b = SA.DnsResp.pieces mtu b.length b :=
  chunksAux_eq_pieces ..

theorem chunks_flatten {mtu : Nat} (hm : 0 < mtu) (b : List Nat) : (chunks mtu b).flatten = b :=
  chunks_eq_pieces .. ▸ SA.DnsResp.pieces_flatten hm (Nat.le_refl _)

theorem chunks_mem_le {mtu : Nat} (hm : 0 < mtu) {b d : List Nat} (h : d ∈ chunks mtu b) : d.length ≤ mtu :=
  (SA.DnsResp.pieces_bounds hm d (chunks_eq_pieces .. ▸ h)).2

theorem chunks_length_le {mtu : Nat} (hm : 0 < mtu) (b : List Nat) : (chunks mtu b).length ≤ b.length :=
  chunks_eq_pieces .. ▸ SA.DnsResp.pieces_length_le hm _ b

theorem chunks_single {mtu : Nat} {d : List Nat} (h0 : d ≠ []) (h : d.length ≤ mtu) : chunks mtu d = [d] :=
  chunks_eq_pieces .. ▸ SA.DnsResp.pieces_short (List.length_pos_iff.mpr h0) h0 h

theorem chunks_small {mtu : Nat} {d : List Nat} (h : d.length ≤ mtu) : (chunks mtu d).length ≤ 1 := by
  by_cases h0 : d = []
  · rw [h0, chunks_nil]; exact Nat.zero_le _
  · rw [chunks_single h0 h]; exact Nat.le_refl _

theorem addChunk_out (o : OutQ) (d : List Nat) : (o.addChunk d).out = o.out ++ [⟨o.next, d⟩] := rfl

theorem addChunk_next (o : OutQ) (d : List Nat) : (o.addChunk d).next = (o.next + 1) % MOD := rfl

theorem addChunk_hd (o : OutQ) (d : List Nat) : (o.addChunk d).hd = o.hd := by simp [OutQ.addChunk, OutQ.hd]

theorem addChunk_W (o : OutQ) (d : List Nat) : (o.addChunk d).W = o.W ++ [d] := by simp [OutQ.addChunk, OutQ.W]

theorem addChunks_WR : ∀ (cs : List (List Nat)) (o : OutQ),
    (cs.foldl OutQ.addChunk o).WR = cs.reverse ++ o.WR ∧ (cs.foldl OutQ.addChunk o).hd = o.hd
  | [], _ => ⟨rfl, rfl⟩
  | d :: ds, o => by
    obtain ⟨a1, a2⟩ := addChunks_WR ds (o.addChunk d)
    simp only [List.foldl_cons]
    rw [a1, a2]
    exact ⟨by simp [OutQ.addChunk], by simp [OutQ.addChunk, OutQ.hd]⟩

theorem End.acc_congr {e e' : End} (h : e'.accR = e.accR) : e'.acc = e.acc := by unfold End.acc; rw [h]

theorem writeEnd_busy {mtu : Nat} {e : End} {data : List Nat} (h : e.outq.out ≠ []) : writeEnd mtu e data = e :=
  if_pos h

theorem writeEnd_idle {mtu : Nat} {e : End} {data : List Nat} (h : e.outq.out = []) :
    writeEnd mtu e data =
      { e with outq := (chunks mtu data).foldl OutQ.addChunk e.outq, accR := data :: e.accR, pend := some data.length } :=
  if_neg fun hn => hn h

theorem writeEnd_acc {mtu : Nat} {e : End} {data : List Nat} (h : e.outq.out = []) :
    (writeEnd mtu e data).acc = e.acc ++ data := by
  rw [writeEnd_idle h]; simp [End.acc]

theorem writeEnd_inq (mtu : Nat) (e : End) (data : List Nat) : (writeEnd mtu e data).inq = e.inq := by
  unfold writeEnd; split <;> rfl

/-- a read changes `buf` and nothing else -/
theorem readEnd_eq (e : End) (n : Nat) : ∃ b, readEnd e n = { e with inq := { e.inq with buf := b } } := by
  unfold readEnd
  split
  · exact ⟨e.inq.buf, rfl⟩
  · exact ⟨_, rfl⟩

theorem readEnd_outq (e : End) (n : Nat) : (readEnd e n).outq = e.outq := by
  obtain ⟨_, h⟩ := readEnd_eq e n; rw [h]

theorem writeEnd_WR (mtu : Nat) (e : End) (data : List Nat) :
    (∃ cs, (writeEnd mtu e data).outq.WR = cs ++ e.outq.WR) ∧ (writeEnd mtu e data).outq.hd = e.outq.hd := by
  unfold writeEnd
  split
  · exact ⟨⟨[], rfl⟩, rfl⟩
  · exact ⟨⟨_, (addChunks_WR _ _).1⟩, (addChunks_WR _ _).2⟩

theorem writeEnd_single {mtu : Nat} {e : End} {d : List Nat} (h : e.outq.out = []) (h0 : d ≠ []) (hm : d.length ≤ mtu) :
    writeEnd mtu e d = { e with outq := e.outq.addChunk d, accR := d :: e.accR, pend := some d.length } := by
  rw [writeEnd_idle h, chunks_single h0 hm]
  rfl

theorem runS_skipRun (c : Cfg) (mtu : Nat) : SkipRun (fun st e => some (stepS c mtu st e)) (runS c mtu) :=
  ⟨fun _ => rfl, fun _ _ _ => rfl⟩

theorem runS_snoc (c : Cfg) (mtu : Nat) (es : List Ev) (st : Sys) (e : Ev) :
    runS c mtu st (es ++ [e]) = stepS c mtu (runS c mtu st es) e :=
  (runS_skipRun c mtu).append st es [e]

theorem clientRecv_accR (c : Cfg) (e : End) (r : Resp) : (clientRecv c e r).1.accR = e.accR := by
  cases r <;> rfl

theorem xchg_accR (c : Cfg) (mtu : Nat) (st : Sys) (ft : Fate) :
    (stepS c mtu st (.xchg ft)).a.accR = st.a.accR := by
  cases ft <;> simp only [stepS, xchgS]
  · rw [clientRecv_accR]; rfl
  · rfl
  · rfl
  · rw [clientRecv_accR]; rfl
  · rw [clientRecv_accR]; rfl
  · split <;> rfl

end SA.Queue
