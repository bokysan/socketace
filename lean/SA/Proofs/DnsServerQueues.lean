/-
  SA.Proofs.DnsServerQueues — which steps of a multi-session history reach the queue pair of one session object (C13).

  `QSame σ σ'`: every session object has the same InQueue / OutQueue before and after.  Every handler except `packet`
  for the validated session establishes it; `packet` applies `pktStep` to exactly the session that passed
  validateAndGetUser (`PktUpd`, `owner_q`).  Hence the queue pair of a session object is the fold of `qstep` over its own
  trace (`trace_from`).  The last section: the packets of such a trace carry 16-bit sequence numbers (`seqOk_trace_from`),
  which is what the refinement of SA.Proofs.DnsServerRefine (`trace_sim`, from where `SeqOk` is imported) asks of a trace.
-/
import SA.Proofs.DnsDispatch
import SA.Proofs.DnsServerRefine

namespace SA.DnsServer
open SA.Go SA.Go.Res

def QSame (σ σ' : Srv) : Prop := ∀ t, (σ'.sess t).q = (σ.sess t).q

theorem QSame.refl (σ : Srv) : QSame σ σ := fun _ => rfl

theorem QSame.trans {σ σ' σ'' : Srv} (h1 : QSame σ σ') (h2 : QSame σ' σ'') : QSame σ σ'' :=
  fun t => (h2 t).trans (h1 t)

theorem modify_qsame (σ : Srv) (s : Nat) (f : Sess → Sess) (hf : ∀ x, (f x).q = x.q) : QSame σ (σ.modify s f) := by
  intro t
  rw [sess_modify]; split
  · next h => rw [hf, h.1]
  · rfl

theorem touch_qsame (σ : Srv) (s : Nat) : QSame σ (touch σ s) := modify_qsame σ s _ (fun _ => rfl)

theorem Seen.qsame {addr : Nat} {σ σ1 : Srv} (h : Seen addr σ σ1) : QSame σ σ1 := by
  cases h with
  | same => exact .refl _
  | touched _ s _ _ => exact touch_qsame σ s

/-- a fresh session object has the queues of the default object: appending it to the heap changes no queue pair -/
theorem newUser_qsame {σ σ' : Srv} {addr : Nat} {u : Option Nat} (h : newUser σ addr = (σ', u)) : QSame σ σ' := by
  rcases newUser_cases h with ⟨rfl, _⟩ | ⟨i, _, _, rfl⟩
  · exact .refl _
  · intro t
    rw [sess_storeSlot]
    split
    · next ht => rw [ht, Srv.sess, List.getD_eq_getElem?_getD, List.getElem?_eq_none (Nat.le_refl _)]; rfl
    · rfl

theorem retire_qsame (σ : Srv) (sid : Nat) : QSame σ (retire σ sid) :=
  (touch_qsame σ sid).trans (QSame.trans (fun t => by rw [sess_setTable, sess_setTable])
    (modify_qsame _ sid _ (fun _ => rfl)))

theorem Closed.qsame {σ σ' : Srv} {sid : Nat} (h : Closed σ sid σ') : QSame σ σ' := by
  rcases h with rfl | ⟨_, rfl⟩
  · exact .refl _
  · exact retire_qsame σ sid

theorem applyOptions_q (s : Sess) (o : Options) : (applyOptions s o).q = s.q := by rw [applyOptions_eq]; rfl

/-- `packet` applied `pktStep` to session object `s` and to nothing else, and answered `pktAns` (or nothing) -/
structure PktUpd (σ σ' : Srv) (s ack : Nat) (pkt : Option (Nat × List Nat)) (a : Ans) : Prop where
  others : ∀ t, t ≠ s → (σ'.sess t).q = (σ.sess t).q
  self : (σ'.sess s).q = pktStep (σ.sess s).q ack pkt
  ans : a = .drop ∨ a = pktAns (σ.sess s).q ack pkt

theorem owner_q {cd : Codec} {dl : Nat} {σ σ' : Srv} {m : Msg} {uid s : Nat} {q : Req} {a : Ans} (hq : q.uid? = some uid)
    (hl : σ.live[uid]? = some (some s)) (ho : (σ.sess s).owner = m.addr) (hs : s < σ.heap.length)
    (h : handleReq cd dl (touch σ s) m q = ok (σ', a)) :
    match q with
    | .packet _ ack pkt => PktUpd σ σ' s ack pkt a
    | _ => QSame σ σ' := by
  have hv := validate_touch hl ho
  have hT := touch_qsame σ s
  cases q <;> simp only [Req.uid?, Option.some.injEq, reduceCtorEq] at hq <;> subst hq <;> dsimp only
  · rename_i o
    rw [handleReq_options hv] at h
    split at h
    · cases hc : closeConnection (touch σ s) s with
      | panic => simp [hc] at h
      | ok σ2 => simp only [hc, Res.bind_ok] at h; cases h; exact hT.trans (close_cases hc).qsame
    · split at h <;> cases h
      · exact hT
      · exact hT.trans (modify_qsame _ s _ (fun x => applyOptions_q x o))
  · rw [handleReq_fragTest hv] at h; cases h; exact hT
  · rw [handleReq_upTest hv] at h; cases h; exact hT
  · rename_i ack pkt
    obtain ⟨n, hn⟩ := handleReq_packet (cd := cd) (dl := dl) hv ack pkt
    rw [hn] at h; cases h
    have hs' : s < (touch σ s).heap.length := by simpa [touch, heap_length_modify] using hs
    refine ⟨fun t ht => ?_, ?_, ?_⟩
    · rw [sess_modify, if_neg (fun c => ht c.1)]; exact hT t
    · rw [sess_modify, if_pos ⟨rfl, hs'⟩, ← hT s]; rfl
    · rw [hT s]; exact finish_cases ..

/-- `pktReq` follows the route of the message, like `onMessage` -/
theorem pktReq_acted {cd : Codec} {dom : List Nat} {σ : Srv} {m : Msg} {code : Nat} {nu : Bool} {request rest : List Nat} {uid s : Nat}
    {q : Req} (hr : route dom m = .cmd code nu request rest uid) (hl : σ.live[uid]? = some (some s))
    (ho : (σ.sess s).owner = m.addr) (hd : decodeRequest cd code nu true (σ.sess s).up request = ok (some q)) :
    pktReq cd dom σ m = match q with
      | .packet _ a p => some (s, a, p)
      | _ => none := by
  have r := route_cmd hr
  obtain ⟨_, hc⟩ := r.find
  simp only [pktReq, r.strip, hc, r.header, hl, ho, hd, ite_true]; cases q <;> rfl

theorem pktReq_some {cd : Codec} {dom : List Nat} {σ : Srv} {m : Msg} {s ack : Nat} {pkt : Option (Nat × List Nat)}
    (hp : pktReq cd dom σ m = some (s, ack, pkt)) :
    ∃ code nu request rest uid u, route dom m = .cmd code nu request rest uid ∧ σ.live[uid]? = some (some s) ∧
      (σ.sess s).owner = m.addr ∧ decodeRequest cd code nu true (σ.sess s).up request = ok (some (.packet u ack pkt)) := by
  -- the `match`es of `pktReq` in turn: the arm that goes on, then the one that returns `none`
  unfold pktReq at hp
  split at hp
  · next request hs =>
    split at hp
    · next code nu _ hc =>
      split at hp
      · next rest uid hh =>
        split at hp
        · next s' hl =>
          split at hp
          · next ho =>
            split at hp
            · next u a p hd => cases hp; exact ⟨code, nu, request, rest, uid, u, route_of hs hc hh, hl, ho, hd⟩
            · cases hp
          · cases hp
        · cases hp
      · cases hp
    · cases hp
  · cases hp

/-- **which messages reach which queues**: a message reaches the queue pair of a session object only as the packet
    request `pktReq` recognises (live identifier, owner address, decodes with that session's codec), and then it applies
    `pktStep` to that object alone; every other message leaves every queue pair as it was. -/
theorem onMessage_q (cd : Codec) (dom : List Nat) {σ σ' : Srv} (hI : Inv σ) (m : Msg) {a : Ans}
    (h : onMessage cd dom σ m = ok (σ', a)) :
    match pktReq cd dom σ m with
    | some (s, ack, pkt) => PktUpd σ σ' s ack pkt a
    | none => QSame σ σ' := by
  cases hp : pktReq cd dom σ m with
  | some x =>
    obtain ⟨s, ack, pkt⟩ := x
    obtain ⟨code, nu, request, rest, uid, u, hro, hl, ho, hd⟩ := pktReq_some hp
    rw [onMessage_eq, hro] at h
    simp only [dispatch_owner hl ho, hd, Res.bind_ok] at h
    have hu := decodeRequest_uid (route_cmd hro).header hd
    split at hu <;> cases hu
    exact owner_q (q := .packet _ ack pkt) rfl hl ho (hI.liveOk _ _ hl).1 h
  | none =>
    cases onMessage_outcome cd dom σ m with
    | answered _ _ hS _ e => rw [h] at e; cases e; exact hS.qsame
    | opened _ _ _ hS hn e => rw [h] at e; cases e; exact hS.qsame.trans (newUser_qsame hn)
    | acted hro hl ho hd hq e =>
      have := owner_q hq hl ho (hI.liveOk _ _ hl).1 (h ▸ e).symm
      rw [pktReq_acted hro hl ho hd] at hp
      split at this
      · cases hp
      · exact this
    | crashed e => rw [h] at e; cases e

/-! ### the other ops of a history -/

theorem appWrite_q (σ : Srv) (s : Nat) (d : List Nat) (t : Nat) :
    ((appWrite σ s d).sess t).q =
      if t = s ∧ writeReaches σ s d = true then ((σ.sess t).q.1, (σ.sess t).q.2.addChunks (chunks d.length (σ.sess t).frag d))
      else (σ.sess t).q := by
  rw [appWrite_eq]
  by_cases hw : writeReaches σ s d = true
  · rw [if_pos hw, sess_modify]
    have hs : s < σ.heap.length := by
      simp only [writeReaches, Bool.and_eq_true, decide_eq_true_eq] at hw; exact hw.1.1
    by_cases hts : t = s
    · rw [if_pos ⟨hts, hs⟩, if_pos ⟨hts, hw⟩, hts]; rfl
    · rw [if_neg (fun c => hts c.1), if_neg (fun c => hts c.1)]
  · rw [if_neg hw, if_neg (fun c => hw c.2)]

theorem expectedAns_append : ∀ (l1 l2 : List SEv) (q : QPair),
    expectedAns q (l1 ++ l2) = expectedAns q l1 ++ expectedAns (l1.foldl qstep q) l2
  | [], _, _ => rfl
  | .pkt a p :: r, l2, q => by
    simp only [List.cons_append, expectedAns, List.foldl_cons, qstep]
    rw [expectedAns_append r l2]
  | .wr d cs :: r, l2, q => by
    simp only [List.cons_append, expectedAns, List.foldl_cons]
    rw [expectedAns_append r l2]

/-- the answers asked of a trace: `pktAns`, or nothing (dropped by the response wrapping) -/
abbrev AnsOk (as : List Ans) (xs : List Ans) : Prop := Pointwise (fun a x => a = .drop ∨ a = x) as xs

/-- one step of a history, seen from session object `sid`: its queue pair moves by exactly the events `evOf` lists, and
    an owner's packet request is answered `pktAns` of the pair before (or nothing); no other step answers for `sid` -/
theorem step_trace (cd : Codec) (hT : cd.Total) (dom : List Nat) {σ : Srv} (hI : Inv σ) (op : Op) (sid : Nat) :
    ((step cd dom σ op).sess sid).q = (evOf cd dom sid σ op).foldl qstep (σ.sess sid).q ∧
    ∀ r rest, AnsOk (ansTraceFrom cd dom sid (step cd dom σ op) r) rest →
      AnsOk (ansTraceFrom cd dom sid σ (op :: r)) (expectedAns (σ.sess sid).q (evOf cd dom sid σ op) ++ rest) := by
  cases op with
  | msg m =>
    obtain ⟨σ', a, h, _, _⟩ := onMessage_good cd hT dom hI m
    have hq := onMessage_q cd dom hI m h
    simp only [ansTraceFrom, evOf, step_msg h, h]
    cases hp : pktReq cd dom σ m with
    | none => rw [hp] at hq; exact ⟨hq sid, fun _ _ h => h⟩
    | some x =>
      obtain ⟨s, ack, pkt⟩ := x
      rw [hp] at hq
      by_cases hss : s = sid
      · subst hss
        simp only [ite_true, List.foldl_cons, List.foldl_nil, qstep, expectedAns]
        exact ⟨hq.self, fun _ _ h => ⟨hq.ans, h⟩⟩
      · simp only [hss, ite_false]
        exact ⟨hq.others sid (fun e => hss e.symm), fun _ _ h => h⟩
  | close s =>
    obtain ⟨σ', h⟩ := appClose_no_panic hI s
    refine ⟨?_, fun _ _ h => h⟩
    rw [step_close cd dom h]
    exact (appClose_cases h).qsame sid
  | write s d =>
    refine ⟨?_, fun _ _ h => by simp only [evOf]; split <;> exact h⟩
    show ((appWrite σ s d).sess sid).q = _
    rw [appWrite_q]
    simp only [evOf]
    by_cases hc : s = sid ∧ writeReaches σ s d = true
    · obtain ⟨rfl, hw⟩ := hc
      simp [hw, qstep]
    · rw [if_neg hc, if_neg (fun ⟨e, w⟩ => hc ⟨e.symm, w⟩)]; rfl
  | tick dt => exact ⟨rfl, fun _ _ h => h⟩
  | expire => exact ⟨congrArg Sess.q ((expireWith_same _ hI).sess sid), fun _ _ h => h⟩

/-- along a history from any state satisfying the invariant: the queue pair of `sid` is the fold of `qstep` over its
    trace, and the answers to its packet requests are those `expectedAns` lists -/
theorem trace_from (cd : Codec) (hT : cd.Total) (dom : List Nat) (sid : Nat) : ∀ (ops : List Op) {σ : Srv}, Inv σ →
    ((run cd dom σ ops).sess sid).q = (sessTraceFrom cd dom sid σ ops).foldl qstep (σ.sess sid).q ∧
    AnsOk (ansTraceFrom cd dom sid σ ops) (expectedAns (σ.sess sid).q (sessTraceFrom cd dom sid σ ops))
  | [], _, _ => ⟨rfl, trivial⟩
  | op :: r, σ, hI => by
    obtain ⟨h1, h2⟩ := trace_from cd hT dom sid r (step_inv cd hT dom hI op)
    obtain ⟨s1, s2⟩ := step_trace cd hT dom hI op sid
    rw [s1] at h1 h2
    simp only [sessTraceFrom, List.foldl_append, expectedAns_append]
    exact ⟨h1, s2 r _ h2⟩

theorem pointwise_map_right {α β γ : Type} {P : α → γ → Prop} (f : β → γ) : ∀ {l : List α} {m : List β},
    Pointwise P l (m.map f) → Pointwise (fun a b => P a (f b)) l m
  | [], [], _ => trivial
  | [], _ :: _, h => by simp [Pointwise] at h
  | _ :: _, [], h => by simp [Pointwise] at h
  | a :: l, b :: m, h => ⟨h.1, pointwise_map_right f h.2⟩

/-! ### sequence numbers on the wire are 16-bit (the decoders return bytes): the trace of a session satisfies `SeqOk` -/

theorem pktReq_bytes (cd : Codec) (hB : cd.Bytes) (dom : List Nat) (σ : Srv) (m : Msg) {s a : Nat}
    {p : Option (Nat × List Nat)} (h : pktReq cd dom σ m = some (s, a, p)) : ∀ x, p = some x → x.1 < 65536 := by
  obtain ⟨code, nu, request, rest, uid, u, hro, _, _, hd⟩ := pktReq_some h
  cases decodeRequest_some (route_cmd hro).header hd with
  | packet d _ _ hdec hbody =>
    obtain ⟨_, _, e, hseq⟩ := decodePacketBody_some hbody
    cases e
    exact hseq (hB _ _ _ hdec)

theorem evOf_seqOk (cd : Codec) (hB : cd.Bytes) (dom : List Nat) (sid : Nat) (σ : Srv) : ∀ op, ∀ e ∈ evOf cd dom sid σ op, SeqOk e
  | .msg m, e, h => by
    simp only [evOf] at h
    split at h
    · next s a p hp =>
      split at h <;> simp only [List.mem_singleton, List.not_mem_nil] at h
      subst h
      cases p with
      | none => trivial
      | some pp => exact pktReq_bytes cd hB dom σ m hp pp rfl
    · cases h
  | .write s d, e, h => by
    simp only [evOf] at h
    split at h <;> simp only [List.mem_singleton, List.not_mem_nil] at h
    subst h; trivial
  | .close _, _, h | .tick _, _, h | .expire, _, h => nomatch h

theorem seqOk_trace_from (cd : Codec) (hB : cd.Bytes) (dom : List Nat) (sid : Nat) :
    ∀ (ops : List Op) (σ : Srv), ∀ e ∈ sessTraceFrom cd dom sid σ ops, SeqOk e
  | [], _, _, h => nomatch h
  | op :: r, σ, e, h =>
    (List.mem_append.mp h).elim (evOf_seqOk cd hB dom sid σ op e) (seqOk_trace_from cd hB dom sid r _ e)

theorem oracle_bytes (tbl : List (Nat × List Nat × Option (List Nat)))
    (h : (tbl.all fun e => match e.2.2 with | some d => d.all (· < 256) | none => true) = true) :
    (oracleCodec tbl).Bytes := by
  intro c i d hd b hb
  simp only [oracleCodec] at hd
  cases hf : tbl.find? (fun e => e.1 == c && e.2.1 == i) with
  | none => simp [hf] at hd
  | some e =>
    simp only [hf] at hd
    have := List.all_eq_true.mp h e (List.mem_of_find?_eq_some hf)
    rw [hd] at this
    simp only [List.all_eq_true, decide_eq_true_eq] at this
    exact this b hb

end SA.DnsServer
