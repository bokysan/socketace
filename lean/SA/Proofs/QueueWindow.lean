/-
  SA.Proofs.QueueWindow — the acceptance-window loop of `InQueue.Append` as the code runs it (`windowLoop`, a uint16
  counter that is incremented until it equals `next + Hi`) equals the closed form `inWindow`, for all loop bounds and
  all uint16 arguments; and what the closed form says for the bounds `next+1 … next+Max-1`, which both the invariant
  (a packet of the past is outside) and the property theorems about the window read off.
-/
import SA.Model.Queue
namespace SA.Queue

/-- How far `x` is ahead of the counter `i` on the uint16 circle.  Zero exactly at `i`, one less after an
    increment of the counter, a whole turn less one from `x + 1`: the wrap-around is looked at in these three
    facts (and in `ahead_behind`, for chunk numbers); elsewhere `ahead x i` is a plain number and the arithmetic
    is linear. -/
def ahead (x i : Nat) : Nat := (x + MOD - i) % MOD

theorem ahead_zero {x i : Nat} (hx : x < MOD) (hi : i < MOD) : ahead x i = 0 ↔ i = x := by unfold ahead; omega

theorem ahead_succ {x i : Nat} (hx : x < MOD) (hi : i < MOD) (h : i ≠ x) :
    ahead x ((i + 1) % MOD) + 1 = ahead x i := by unfold ahead; omega

theorem ahead_wrap {x : Nat} (hx : x < MOD) : ahead x ((x + 1) % MOD) = MOD - 1 := by unfold ahead; omega

/-- from a uint16 start `i`, with enough fuel to reach `stop`, the loop sets the flag exactly when `seq`
    is one of the `(stop - i) mod 2^16` values `i, i+1, …, stop-1` -/
theorem windowLoop_eq (stop seq : Nat) (hstop : stop < MOD) (hseq : seq < MOD) :
    ∀ (f i : Nat) (acc : Bool), i < MOD → ahead stop i < f →
      windowLoop stop seq f i acc = (acc || decide (ahead seq i < ahead stop i))
  | 0, _, _, _, h => absurd h (Nat.not_lt_zero _)
  | f + 1, i, acc, hi, hf => by
    unfold windowLoop
    by_cases he : i = stop
    · rw [if_pos he, (ahead_zero hstop hi).mpr he, decide_eq_false (Nat.not_lt_zero _), Bool.or_false]
    · have h1 := ahead_succ hstop hi he
      rw [if_neg he, windowLoop_eq stop seq hstop hseq f _ _ (Nat.mod_lt _ (by decide)) (by omega), Bool.or_assoc]
      congr 1
      by_cases hs : i = seq
      · have := (ahead_zero hseq hi).mpr hs
        rw [decide_eq_true hs, Bool.true_or]
        exact (decide_eq_true (by omega)).symm
      · have h2 := ahead_succ hseq hi hs
        rw [decide_eq_false hs, Bool.false_or]
        exact decide_eq_decide.mpr (by omega)

theorem inWindowL_eq (c : Cfg) {next seq : Nat} (hseq : seq < MOD) :
    inWindowL c next seq = inWindow c next seq := by
  unfold inWindowL inWindow
  rw [windowLoop_eq _ _ (Nat.mod_lt _ (by omega)) hseq MOD _ false (Nat.mod_lt _ (by omega))
    (Nat.mod_lt _ (by omega))]
  simp only [Bool.false_or]
  apply decide_eq_decide.mpr
  unfold ahead
  have : ((next + c.whi) % MOD + MOD - (next + c.wlo) % MOD) % MOD = (c.whi + MOD - c.wlo % MOD) % MOD := by
    omega
  rw [this]

/-- for the window `next+1 … next+Max-1` -/
theorem inWindow_iff {c : Cfg} (h1 : c.wlo = 1) (h2 : c.whi = c.max) (h3 : 1 ≤ c.max) (h4 : c.max ≤ MOD)
    {next seq : Nat} (hn : next < MOD) (hs : seq < MOD) :
    inWindow c next seq = true ↔ 1 ≤ ahead seq next ∧ ahead seq next < c.max := by
  have hw : (c.max + MOD - 1 % MOD) % MOD = c.max - 1 := by omega
  show decide (ahead seq ((next + c.wlo) % MOD) < (c.whi + MOD - c.wlo % MOD) % MOD) = true ↔ _
  rw [h1, h2, hw, decide_eq_true_eq]
  by_cases he : next = seq
  · -- `seq` itself is a whole turn ahead of `next + 1`
    subst he
    rw [ahead_wrap hn, (ahead_zero hn hn).mpr rfl]
    omega
  · have := ahead_succ hs hn he
    omega

end SA.Queue
