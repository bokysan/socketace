/-
  The scheduler with failing Accept calls (SA.Model.AcceptFail, C15).  The loop has two fates: while it goes back to
  Accept after every failure it is the untimed scheduler on the history without the failures; once it has left, whoever
  waits in the queue waits for ever.
-/
import SA.Model.AcceptFail
import SA.Proofs.Accept
namespace SA.Accept

theorem frun_skipRun (retry : ErrClass → Bool) (stalled : Nat → Bool) : SkipRun (fstep retry stalled) (frun retry stalled) :=
  ⟨fun _ => rfl, fun s a _ => by rw [frun]; cases fstep retry stalled s a <;> rfl⟩

theorem fbase_map_act (as : List AAct) : fbase (as.map .act) = as := by
  induction as with
  | nil => rfl
  | cons a as ih => rw [List.map_cons, fbase, ih]

theorem frun_retry (retry : ErrClass → Bool) (hr : ∀ c, retry c = true) (stalled : Nat → Bool) (s : FSt)
    (hal : s.alive = true) (acts : List FAct) :
    frun retry stalled s acts = { base := arun true stalled s.base (fbase acts), alive := true } := by
  obtain ⟨b, _⟩ := s
  subst hal
  induction acts generalizing b with
  | nil => rfl
  | cons a as ih =>
    cases a with
    | fail c => simp only [frun, fstep, hr c, if_true]; exact ih b
    | act a =>
      simp only [frun, fstep, fbase, arun, Bool.true_eq_false, and_false, if_false]
      cases astep true stalled b a <;> exact ih _

theorem frun_dead (retry : ErrClass → Bool) (stalled : Nat → Bool) (s : FSt) (hal : s.alive = false) (p : Nat)
    (hp : p ∈ s.base.pending) (acts : List FAct) :
    p ∈ (frun retry stalled s acts).base.pending ∧ (frun retry stalled s acts).alive = false := by
  refine (frun_skipRun retry stalled).invariant (P := fun s : FSt => p ∈ s.base.pending ∧ s.alive = false) ?_ ⟨hp, hal⟩ acts
  rintro s s' a ⟨hp, hal⟩ hs
  cases a with
  | fail c => simp [fstep, hal] at hs
  | act a =>
    simp only [fstep, hal, and_true] at hs
    split at hs
    · cases hs  -- the loop has left: nobody is accepted
    · rename_i hacc
      cases hb : astep true stalled s.base a with
      | none => simp [hb] at hs
      | some b =>
        simp only [hb, Option.some.injEq] at hs
        subst hs
        exact ⟨astep_pending_keep hacc hp hb, rfl⟩

end SA.Accept
