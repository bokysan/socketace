/-
  SA.Proofs.DnsDispatch — `onMessage` read once (C12/C13).

  `onMessage` is a pipeline   name ─route→ command+header ─validate→ (σ1,user,err) ─decode→ request ─handle→ (σ',answer).
  The first stage does not look at the server state and cannot panic: it is named (`route`) and `onMessage` is rewritten
  over it once (`onMessage_eq`; `route_of` and its siblings say which route a name takes).  The later stages have
  characterising equations (`dispatch_owner`, `dispatch_foreign`, `dispatch_free`, `handleReq_*`); `onMessage_outcome` sums the whole up as the ways a message can end, and every statement
  about all messages (the invariant is kept: `onMessage_good`; what a command may change in the sessions and the
  queues; what a stranger can cause) is read off it by cases.
-/
import SA.Proofs.DnsServer
import SA.Proofs.DnsDecode
import SA.Model.DnsSessTrace

namespace SA.DnsServer
open SA.Go SA.Go.Res

/-! ### the route of a message (state-independent, total) -/

/-- what the name of a message selects -/
inductive Route where
  /-- no command, or a reserved letter without request constructor: BADCOMMAND -/
  | bad
  /-- the request header does not decode: `(nil, err)` -/
  | ignored
  /-- command `code` (needing a user id or not), the stripped request, the body after the header, the user id -/
  | cmd (code : Nat) (nu : Bool) (request rest : List Nat) (uid : Nat)

def route (dom : List Nat) (m : Msg) : Route :=
  match stripDomain m.name dom with
  | .ok request =>
    match findCmd SA.Gen.commandTable request with
    | .ok (some (code, nu, true, _)) =>
      match decodeHeader nu request with
      | .ok (some (rest, uid)) => .cmd code nu request rest uid
      | _ => .ignored
    | _ => .bad
  | .panic => .bad

/-- dispatch on the decoded request (the last `match` of `onMessage`) -/
def handleReq (cd : Codec) (dl : Nat) (σ : Srv) (m : Msg) : Req → Res (Srv × Ans)
  | .downTest c => pure (hDownTest cd dl σ m c)
  | .upTest u p => hUpTest cd dl σ m u p
  | .fragTest u n => hFragTest cd dl σ m u n
  | .options u o => hOptions cd dl σ m u o
  | .version v => pure (hVersion cd dl σ m v)
  | .packet u a p => hPacket cd dl σ m u a p

/-- `onMessage` from `validateAndGetUser` on -/
def dispatch (cd : Codec) (dl : Nat) (σ : Srv) (m : Msg) (code : Nat) (nu : Bool) (request : List Nat) (uid : Nat) :
    Res (Srv × Ans) := do
  let (σ1, user, uerr) ← validate σ uid m.addr
  if user.isNone && nu then pure (σ1, errAns cd m dl 101 1 84 0 SA.Gen.errBadUser)
  else if user.isSome && uerr = .badConn then pure (σ1, errAns cd m dl 101 1 84 0 SA.Gen.errBadConn)
  else do
    let r ← decodeRequest cd code nu true (upOf σ1 user) request
    match r with
    | none => pure (σ1, errAns cd m dl 101 1 84 0 SA.Gen.errBadCodec)
    | some q => handleReq cd dl σ1 m q

theorem onMessage_eq (cd : Codec) (dom : List Nat) (σ : Srv) (m : Msg) :
    onMessage cd dom σ m =
      match route dom m with
      | .bad => ok (σ, errAns cd m dom.length 101 1 84 0 SA.Gen.errBadCommand)
      | .ignored => ok (σ, .ignored)
      | .cmd code nu request _ uid => dispatch cd dom.length σ m code nu request uid := by
  unfold onMessage route
  obtain ⟨request, hreq⟩ := stripDomain_no_panic m.name dom
  obtain ⟨c, hc⟩ : ∃ c, findCmd SA.Gen.commandTable request = ok c := ⟨_, findCmd_eq ..⟩
  simp only [hreq, hc, Res.bind_ok]
  match c with
  | none => rfl
  | some (code, nu, false, _) => rfl
  | some (code, nu, true, _) =>
    obtain ⟨h, hh⟩ := decodeHeader_no_panic nu request
    simp only [hh, Res.bind_ok, Bool.not_true, Bool.false_eq_true, ite_false]
    match h with
    | none => rfl
    | some (rest, uid) =>
      -- what is left differs only in the last `match`, which is `handleReq`
      dsimp only
      unfold dispatch
      refine congrArg _ (funext fun r => ?_)
      obtain ⟨σ1, user, e⟩ := r
      dsimp only
      congr 2
      refine congrArg _ (funext fun q => ?_)
      cases q with
      | none => rfl
      | some q => cases q <;> rfl

theorem route_noCmd {dom : List Nat} {m : Msg} {request : List Nat} (hs : stripDomain m.name dom = ok request)
    (hc : findCmd SA.Gen.commandTable request = ok none) : route dom m = .bad := by
  simp only [route, hs, hc]

/-- a reserved letter: a command without request constructor -/
theorem route_reserved {dom : List Nat} {m : Msg} {code : Nat} {nu r : Bool} {request : List Nat}
    (hs : stripDomain m.name dom = ok request) (hc : findCmd SA.Gen.commandTable request = ok (some (code, nu, false, r))) :
    route dom m = .bad := by
  simp only [route, hs, hc]

theorem route_badHeader {dom : List Nat} {m : Msg} {code : Nat} {nu r : Bool} {request : List Nat}
    (hs : stripDomain m.name dom = ok request) (hc : findCmd SA.Gen.commandTable request = ok (some (code, nu, true, r)))
    (hh : decodeHeader nu request = ok none) : route dom m = .ignored := by
  simp only [route, hs, hc, hh]

theorem route_of {dom : List Nat} {m : Msg} {code : Nat} {nu r : Bool} {request rest : List Nat} {uid : Nat}
    (hs : stripDomain m.name dom = ok request) (hc : findCmd SA.Gen.commandTable request = ok (some (code, nu, true, r)))
    (hh : decodeHeader nu request = ok (some (rest, uid))) : route dom m = .cmd code nu request rest uid := by
  simp only [route, hs, hc, hh]

/-- the three stages behind `route dom m = .cmd …`: the converse of `route_of` -/
structure Routed (dom : List Nat) (m : Msg) (code : Nat) (nu : Bool) (request rest : List Nat) (uid : Nat) : Prop where
  strip : stripDomain m.name dom = ok request
  find : ∃ r, findCmd SA.Gen.commandTable request = ok (some (code, nu, true, r))
  header : decodeHeader nu request = ok (some (rest, uid))

theorem route_cmd {dom : List Nat} {m : Msg} {code : Nat} {nu : Bool} {request rest : List Nat} {uid : Nat}
    (h : route dom m = .cmd code nu request rest uid) : Routed dom m code nu request rest uid := by
  -- the `match`es of `route` in turn: the arm that goes on, then the one that does not answer `.cmd`
  unfold route at h
  split at h
  · next hs =>
    split at h
    · next hc =>
      split at h
      · next hh => cases h; exact ⟨hs, ⟨_, hc⟩, hh⟩
      · cases h
    · cases h
  · cases h

theorem uid_of_needsUser {cd : Codec} {dom : List Nat} {m : Msg} {code up : Nat} {request rest : List Nat} {uid : Nat} {q : Req}
    (hr : route dom m = .cmd code true request rest uid) (hd : decodeRequest cd code true true up request = ok (some q)) :
    q.uid? = some uid := by
  obtain ⟨r, hc⟩ := (route_cmd hr).find
  have := gen_needsUser_codes _ (List.mem_of_find?_eq_some (Res.ok.inj ((findCmd_eq ..).symm.trans hc))) rfl
  rw [decodeRequest_uid (route_cmd hr).header hd, if_neg (fun h => h.elim this.1 this.2)]

/-! ### the handlers, given what validateAndGetUser said -/

theorem handleReq_refused {cd : Codec} {dl : Nat} {σ σ1 : Srv} {m : Msg} {q : Req} {uid : Nat} {user : Option Nat} {e : VErr}
    (hq : q.uid? = some uid) (hv : validate σ uid m.addr = ok (σ1, user, e)) (he : e ≠ .ok) :
    ∃ c code, handleReq cd dl σ m q = ok (σ1, errAns cd m dl c 1 code 1 (vErrName e)) := by
  cases q <;> simp only [Req.uid?, Option.some.injEq, reduceCtorEq] at hq <;> subst hq <;>
    simp only [handleReq, hOptions, hFragTest, hUpTest, hPacket, hv, Res.bind_ok]
  -- each handler matches on `(user, err)`: with a concrete error every branch but the report is gone
  all_goals
    cases e with
    | ok => exact absurd rfl he
    | _ => cases user <;> exact ⟨_, _, rfl⟩

def Sess.withQ (s : Sess) (q : QPair) : Sess := { s with inq := q.1, outq := q.2 }

variable {cd : Codec} {dl : Nat} {σ σ1 : Srv} {m : Msg} {uid s : Nat}

theorem handleReq_packet (hv : validate σ uid m.addr = ok (σ1, some s, .ok)) (ack : Nat) (pkt : Option (Nat × List Nat)) :
    ∃ n, handleReq cd dl σ m (.packet uid ack pkt) =
      ok (σ1.modify s (fun x => x.withQ (pktStep x.q ack pkt)),
          finish cd m dl 1 (σ1.sess s).down n (pktAns (σ1.sess s).q ack pkt)) := by
  simp only [handleReq, hPacket, hv, Res.bind_ok, downOf, pktAns, pktStep, Sess.q, Sess.withQ, Srv.modify]
  cases (σ1.sess s).inq.append pkt with
  | none => exact ⟨_, rfl⟩
  | some i => cases ((σ1.sess s).outq.updateAcked ack).nextChunk.2 <;> exact ⟨_, rfl⟩

theorem handleReq_options (hv : validate σ uid m.addr = ok (σ1, some s, .ok)) (o : Options) :
    handleReq cd dl σ m (.options uid o) =
      if o.closed = some true then closeConnection σ1 s >>= fun σ2 => ok (σ2, finish cd m dl 1 84 1 .optionsOk)
      else if badFrag o.frag then ok (σ1, errAns cd m dl 111 1 84 1 SA.Gen.errBadFrag)
      else ok (σ1.modify s (fun x => applyOptions x o), finish cd m dl 1 84 1 .optionsOk) := by
  simp only [handleReq, hOptions, hv, Res.bind_ok]; rfl

theorem handleReq_fragTest (hv : validate σ uid m.addr = ok (σ1, some s, .ok)) (n : Nat) :
    handleReq cd dl σ m (.fragTest uid n) =
      ok (σ1, if n > SA.Gen.maxDownstreamFragmentSize then errAns cd m dl 114 1 (σ1.sess s).down 1 SA.Gen.errBadFrag
              else finish cd m dl 1 (σ1.sess s).down (5 + n) (.frag n)) := by
  simp only [handleReq, hFragTest, hv, Res.bind_ok, downOf]; split <;> rfl

theorem handleReq_upTest (hv : validate σ uid m.addr = ok (σ1, some s, .ok)) (p : List Nat) :
    handleReq cd dl σ m (.upTest uid p) = ok (σ1, finish cd m dl 1 84 (1 + p.length) (.upOk p)) := by
  simp only [handleReq, hUpTest, hv, Res.bind_ok]; rfl

/-! ### the whole: how a message can end -/

/-- answers that carry nothing of a session: none at all, a dropped one, an error, the codec probe -/
def Ans.inert : Ans → Bool
  | .ignored | .drop | .err _ _ | .downOk _ => true
  | _ => false

theorem finish_cases (cd : Codec) (m : Msg) (dl pfx code n : Nat) (a : Ans) :
    finish cd m dl pfx code n a = .drop ∨ finish cd m dl pfx code n a = a := by
  unfold finish; split <;> simp

theorem errAns_cases (cd : Codec) (m : Msg) (dl cmd pfx code extra : Nat) (e : String) :
    errAns cd m dl cmd pfx code extra e = .drop ∨ errAns cd m dl cmd pfx code extra e = .err cmd e :=
  finish_cases ..

/-- what holds of a dropped answer and of `a` holds of `finish … a` -/
theorem finish_of {P : Ans → Prop} (cd : Codec) (m : Msg) (dl pfx code n : Nat) {a : Ans} (hd : P .drop) (ha : P a) :
    P (finish cd m dl pfx code n a) := by
  rcases finish_cases cd m dl pfx code n a with e | e <;> rw [e]
  · exact hd
  · exact ha

theorem finish_inert {cd : Codec} {m : Msg} {dl pfx code n : Nat} {a : Ans} (h : a.inert = true) :
    (finish cd m dl pfx code n a).inert = true :=
  finish_of (P := (·.inert = true)) _ _ _ _ _ _ rfl h

theorem errAns_inert (cd : Codec) (m : Msg) (dl cmd pfx code extra : Nat) (e : String) :
    (errAns cd m dl cmd pfx code extra e).inert = true := finish_inert rfl

theorem upOf_touch (σ : Srv) (s : Nat) : upOf (touch σ s) (some s) = (σ.sess s).up := by
  simp only [upOf, touch, sess_modify]; split <;> rfl

/-- **how a message ends** -/
inductive Outcome (cd : Codec) (dom : List Nat) (σ : Srv) (m : Msg) (x : Res (Srv × Ans)) : Prop where
  /-- answered without acting on any session: the state is as `validateAndGetUser` left it -/
  | answered (σ1 : Srv) (a : Ans) : Seen m.addr σ σ1 → a.inert = true → x = ok (σ1, a) → Outcome cd dom σ m x
  /-- a version request that `newUser` granted -/
  | opened (σ1 σ2 : Srv) (u : Nat) : Seen m.addr σ σ1 → newUser σ1 m.addr = (σ2, some u) →
      x = ok (σ2, finish cd m dom.length 3 84 5 (.version u)) → Outcome cd dom σ m x
  /-- a session-bound command, decoded with the codec of the live session `s` it names, from the owner of `s` -/
  | acted {code : Nat} {nu : Bool} {request rest : List Nat} {uid s : Nat} {q : Req} :
      route dom m = .cmd code nu request rest uid → σ.live[uid]? = some (some s) → (σ.sess s).owner = m.addr →
      decodeRequest cd code nu true (σ.sess s).up request = ok (some q) → q.uid? = some uid →
      x = handleReq cd dom.length (touch σ s) m q → Outcome cd dom σ m x
  /-- a Go panic: only with a decoder that panics, or from a state that violates the invariant -/
  | crashed : x = panic → ¬ (cd.Total ∧ Inv σ) → Outcome cd dom σ m x

theorem hVersion_outcome {cd : Codec} {dom : List Nat} {σ σ1 : Srv} {m : Msg} (hS : Seen m.addr σ σ1) (v : Nat) :
    Outcome cd dom σ m (ok (hVersion cd dom.length σ1 m v)) := by
  unfold hVersion
  split
  · exact .answered _ _ hS (errAns_inert ..) rfl
  · split
    · next hn => exact .opened _ _ _ hS hn rfl
    · next hn =>
      rcases newUser_cases hn with ⟨rfl, _⟩ | ⟨_, hu, _⟩
      · exact .answered _ _ hS (errAns_inert ..) rfl
      · cases hu

/-- **every message ends in one of these ways** (any state, any codec) -/
theorem onMessage_outcome (cd : Codec) (dom : List Nat) (σ : Srv) (m : Msg) : Outcome cd dom σ m (onMessage cd dom σ m) := by
  rw [onMessage_eq]
  split
  · exact .answered _ _ .same (errAns_inert ..) rfl
  · exact .answered _ _ .same rfl rfl
  next code nu request rest uid hr =>
  have hh := (route_cmd hr).header
  have hu := decodeHeader_uid_lt hh
  unfold dispatch
  cases hv : validate σ uid m.addr with
  | panic =>
    refine .crashed rfl fun ⟨_, hI⟩ => ?_
    obtain ⟨_, hr⟩ := validate_no_panic (hI.lenL ▸ hu) (hI.lenR ▸ hu) m.addr
    rw [hv] at hr; cases hr
  | ok v =>
    obtain ⟨σ1, user, e⟩ := v
    have hV := validate_vres hv
    have hS : Seen m.addr σ σ1 := hV.seen
    simp only [Res.bind_ok]
    split
    · exact .answered _ _ hS (errAns_inert ..) rfl
    split
    · exact .answered _ _ hS (errAns_inert ..) rfl
    cases hd : decodeRequest cd code nu true (upOf σ1 user) request with
    | panic =>
      refine .crashed rfl fun ⟨hT, _⟩ => ?_
      obtain ⟨_, hr⟩ := decodeRequest_no_panic hT code (upOf σ1 user) hh
      rw [hd] at hr; cases hr
    | ok oq =>
      cases oq with
      | none => exact .answered _ _ hS (errAns_inert ..) rfl
      | some q =>
        simp only [Res.bind_ok]
        have hq := decodeRequest_uid hh hd
        split at hq
        · cases q <;> simp only [Req.uid?, reduceCtorEq] at hq
          · exact hVersion_outcome hS _
          · exact .answered _ _ hS (finish_inert rfl) rfl
        · cases hV with
          | ok s hl ho => exact .acted hr hl ho (by rwa [upOf_touch] at hd) hq rfl
          | _ =>
            obtain ⟨c, code', he⟩ := handleReq_refused (cd := cd) (dl := dom.length) hq hv (by decide)
            exact .answered _ _ .same (errAns_inert ..) he

/-! ### the owner's commands keep the invariant and the frame; no message panics -/

/-- what every handler establishes -/
def Good (addr : Nat) (σ : Srv) (r : Res (Srv × Ans)) : Prop :=
  ∃ σ' a, r = ok (σ', a) ∧ Inv σ' ∧ Frame (fun t => (σ.sess t).owner ≠ addr) σ σ'

theorem owner_good {cd : Codec} {dl : Nat} {σ : Srv} {m : Msg} {uid s : Nat} {q : Req} (hq : q.uid? = some uid) (hI : Inv σ)
    (hl : σ.live[uid]? = some (some s)) (ho : (σ.sess s).owner = m.addr) :
    Good m.addr σ (handleReq cd dl (touch σ s) m q) := by
  have hv := validate_touch hl ho
  have hI1 := touch_inv hI s
  have hF1 : Frame (· ≠ s) σ (touch σ s) := modify_frame σ s _
  -- every command acts on the object `s` alone, which is the sender's
  have good : ∀ {σ' a}, Inv σ' → Frame (· ≠ s) σ σ' → Good m.addr σ (ok (σ', a)) := fun hI' hF => ⟨_, _, rfl, hI', hF.foreign ho⟩
  have hmod : ∀ f : Sess → Sess, _ → _ → ∀ a, Good m.addr σ (ok ((touch σ s).modify s f, a)) := fun f hu hf _ =>
    good (modify_inv hI1 s f hu hf) (hF1.trans (modify_frame _ s f))
  cases q <;> simp only [Req.uid?, Option.some.injEq, reduceCtorEq] at hq <;> subst hq
  · rename_i o
    rw [handleReq_options hv]
    split
    · obtain ⟨σ2, h2⟩ := close_no_panic hI1 (sid := s) (by simpa [touch, heap_length_modify] using (hI.liveOk _ _ hl).1)
      rw [h2]; exact good ((close_cases h2).inv hI1) (hF1.trans (close_cases h2).frame)
    · cases hb : badFrag o.frag
      · exact hmod _ (fun x => applyOptions_uid x o) (fun x h => applyOptions_sessOk x o hb h) _
      · exact good hI1 hF1
  · rw [handleReq_fragTest hv]; exact good hI1 hF1
  · rw [handleReq_upTest hv]; exact good hI1 hF1
  · obtain ⟨n, hn⟩ := handleReq_packet (cd := cd) (dl := dl) hv ‹_› ‹_›
    rw [hn]; exact hmod (fun x => x.withQ (pktStep x.q _ _)) (fun _ => rfl) (fun _ h => ⟨h.frag, h.uid⟩) _

/-- ServerDnsListener.onMessage: from a state satisfying the invariant the handler does not panic, re-establishes the
    invariant, and leaves every session of another address untouched -/
theorem onMessage_good (cd : Codec) (hT : cd.Total) (dom : List Nat) {σ : Srv} (hI : Inv σ) (m : Msg) :
    Good m.addr σ (onMessage cd dom σ m) := by
  cases onMessage_outcome cd dom σ m with
  | answered _ _ hS _ h => rw [h]; exact ⟨_, _, rfl, hS.inv hI, hS.frame⟩
  | opened _ _ _ hS hn h => rw [h]; exact ⟨_, _, rfl, newUser_inv (hS.inv hI) hn, hS.frame.trans (newUser_frame hn)⟩
  | acted _ hl ho _ hq h => rw [h]; exact owner_good hq hI hl ho
  | crashed _ hn => exact absurd ⟨hT, hI⟩ hn

/-! ### `dispatch` when the live table decides -/

/-- the owner of the live session in slot `uid` gets past validation and the short-cuts -/
theorem dispatch_owner (hl : σ.live[uid]? = some (some s)) (ho : (σ.sess s).owner = m.addr) (code : Nat) (nu : Bool) (request : List Nat) :
    dispatch cd dl σ m code nu request uid =
      decodeRequest cd code nu true (σ.sess s).up request >>= fun r =>
        match r with
        | none => ok (touch σ s, errAns cd m dl 101 1 84 0 SA.Gen.errBadCodec)
        | some q => handleReq cd dl (touch σ s) m q := by
  simp [dispatch, validate_owner hl ho, upOf_touch]

/-- anybody else is validated as BADIP, which is no short-cut: the request is decoded with the victim's codec -/
theorem dispatch_foreign (hl : σ.live[uid]? = some (some s)) (ho : (σ.sess s).owner ≠ m.addr) (code : Nat) (nu : Bool) (request : List Nat) :
    dispatch cd dl σ m code nu request uid =
      decodeRequest cd code nu true (σ.sess s).up request >>= fun r =>
        match r with
        | none => ok (σ, errAns cd m dl 101 1 84 0 SA.Gen.errBadCodec)
        | some q => handleReq cd dl σ m q := by
  simp [dispatch, validate_foreign hl ho, upOf]

/-- an identifier without live session: BADCONN for the owner of the retired session, BADUSER for anybody else, before
    anything of the request is decoded -/
theorem dispatch_free (hl : σ.live[uid]? = some none) (hr : uid < σ.retired.length) (code : Nat) (request : List Nat) :
    dispatch cd dl σ m code true request uid = ok (σ, errAns cd m dl 101 1 84 0 SA.Gen.errBadUser) ∨
    dispatch cd dl σ m code true request uid = ok (σ, errAns cd m dl 101 1 84 0 SA.Gen.errBadConn) := by
  obtain ⟨v, hv⟩ := validate_no_panic (List.getElem?_eq_some_iff.mp hl).1 hr m.addr
  cases validate_vres hv with
  | badUser _ => exact .inl (by simp [dispatch, hv])
  | badConn s _ _ _ => exact .inr (by simp [dispatch, hv])
  | badIp s hl' _ | ok s hl' _ => rw [hl] at hl'; cases hl'

/-! ### what the validated owner is answered -/

/-- a version answer or a refusal: what a session-bound handler never tells the owner of the live session.
    (The refusals alone, as a proposition, are `Refusal` below.  Against `inert`: every refusal is inert,
    a version answer is alien and not inert, BADCODEC is inert and not alien.) -/
def Ans.alien : Ans → Bool
  | .version _ => true
  | .err _ e => e == SA.Gen.errBadConn || e == SA.Gen.errBadUser || e == SA.Gen.errBadIp
  | _ => false

theorem finish_alien {cd : Codec} {m : Msg} {dl p c n : Nat} {x : Ans} (h : x.alien = false) :
    (finish cd m dl p c n x).alien = false :=
  finish_of (P := (·.alien = false)) _ _ _ _ _ _ rfl h

theorem owner_ans {cd : Codec} {dl : Nat} {σ σ' : Srv} {m : Msg} {uid s : Nat} {q : Req} {a : Ans} (hq : q.uid? = some uid)
    (hv : validate σ uid m.addr = ok (σ, some s, .ok)) (h : handleReq cd dl σ m q = ok (σ', a)) : a.alien = false := by
  cases q <;> simp only [Req.uid?, Option.some.injEq, reduceCtorEq] at hq <;> subst hq
  · rw [handleReq_options hv] at h
    split at h
    · cases hc : closeConnection σ s with
      | panic => simp [hc] at h
      | ok σ2 => simp only [hc, Res.bind_ok] at h; cases h; exact finish_alien rfl
    · split at h <;> cases h <;> exact finish_alien rfl
  · rw [handleReq_fragTest hv] at h; cases h
    split <;> exact finish_alien rfl
  · rw [handleReq_upTest hv] at h; cases h
    exact finish_alien rfl
  · obtain ⟨n, hn⟩ := handleReq_packet (cd := cd) (dl := dl) hv ‹_› ‹_›
    rw [hn] at h; cases h
    unfold pktAns
    split <;> exact finish_alien rfl

/-- `v:OK:<uid>` is answered only when `newUser` succeeds on the state `validateAndGetUser(0, addr)` left: of the ways
    a message can end only `opened` has it -/
theorem onMessage_version (cd : Codec) (dom : List Nat) (σ σ' : Srv) (m : Msg) (uid : Nat)
    (h : onMessage cd dom σ m = ok (σ', .version uid)) :
    ∃ σ1, Touched σ σ1 ∧ newUser σ1 m.addr = (σ', some uid) := by
  cases onMessage_outcome cd dom σ m with
  | answered _ _ _ hi e => rw [h] at e; cases e; cases hi
  | opened σ1 _ u hS hn e =>
    rw [h] at e; injection e with e; injection e with h1 h2
    rcases finish_cases cd m dom.length 3 84 5 (.version u) with e | e <;> rw [e] at h2 <;> cases h2
    exact ⟨σ1, hS.toTouched, h1 ▸ hn⟩
  | acted _ hl ho _ hq e => cases owner_ans hq (validate_touch hl ho) (h ▸ e).symm
  | crashed e => rw [h] at e; cases e

theorem onMessage_opens {cd : Codec} {dom : List Nat} {σ σ' : Srv} {m : Msg} {uid : Nat}
    (h : onMessage cd dom σ m = ok (σ', .version uid)) : Opened σ σ' m.addr uid := by
  obtain ⟨σ1, ht, hn⟩ := onMessage_version cd dom σ σ' m uid h
  exact (newUser_opens hn).of_touched ht

/-- an answer that tells the peer its session is closed, unknown, or somebody else's (the error half of `Ans.alien`) -/
def Refusal (a : Ans) : Prop :=
  ∃ c, a = .err c SA.Gen.errBadConn ∨ a = .err c SA.Gen.errBadUser ∨ a = .err c SA.Gen.errBadIp

theorem not_refusal {a : Ans} (h : a.alien = false) : ¬ Refusal a := by
  rintro ⟨c, rfl | rfl | rfl⟩ <;> cases h

/-! ### one op of a history -/

theorem step_msg {cd : Codec} {dom : List Nat} {σ σ' : Srv} {m : Msg} {a : Ans} (h : onMessage cd dom σ m = ok (σ', a)) :
    step cd dom σ (.msg m) = σ' := by
  simp only [step, stepAns, h, Res.bind_ok, Res.pure_eq]

theorem step_close (cd : Codec) (dom : List Nat) {σ σ' : Srv} {s : Nat} (h : appClose σ s = ok σ') :
    step cd dom σ (.close s) = σ' := by
  simp only [step, stepAns, h, Res.bind_ok, Res.pure_eq]

theorem appWrite_eq (σ : Srv) (s : Nat) (d : List Nat) : appWrite σ s d =
    if writeReaches σ s d = true then σ.modify s (fun x => { x with outq := x.outq.addChunks (chunks d.length x.frag d) })
    else σ := by
  unfold appWrite writeReaches
  by_cases h1 : s < σ.heap.length ∧ d ≠ []
  · by_cases h2 : (σ.sess s).closed = true ∨ (σ.sess s).outq.hasData = true ∨ (σ.sess s).frag = 0 <;> simp [h1, h2]
  · simp [h1]

theorem appWrite_inv {σ : Srv} (hI : Inv σ) (sid : Nat) (d : List Nat) : Inv (appWrite σ sid d) := by
  rw [appWrite_eq]
  split
  · exact modify_inv_of_same hI sid _ (fun _ => rfl) (fun _ => rfl)
  · exact hI

theorem step_inv (cd : Codec) (hT : cd.Total) (dom : List Nat) {σ : Srv} (hI : Inv σ) : ∀ op, Inv (step cd dom σ op)
  | .msg m => by
    obtain ⟨σ', a, h, hI', _⟩ := onMessage_good cd hT dom hI m
    rw [step_msg h]; exact hI'
  | .close sid => by
    obtain ⟨σ', h⟩ := appClose_no_panic hI sid
    rw [step_close cd dom h]; exact (appClose_cases h).inv hI
  | .write sid d => appWrite_inv hI sid d
  | .tick _ => ⟨hI.lenL, hI.lenR, hI.liveOk, hI.retOk, hI.fragOk, hI.uidOk⟩
  | .expire => (expireWith_same _ hI).inv

theorem run_inv (cd : Codec) (hT : cd.Total) (dom : List Nat) (ops : List Op) {σ : Srv} (h : Inv σ) : Inv (run cd dom σ ops) :=
  foldl_invariant (P := Inv) (fun h => step_inv cd hT dom h _) h ops

end SA.DnsServer
