/-
  SA.Proofs.Pieces — cutting a list into `chunk`-sized pieces.

  Every splitting loop of the tunnel (`Dotify`, the `WrapDnsResponse*` family, the two levels of
  `WrapDnsResponseTxt`, and the outgoing queue's `chunks` in SA.Proofs.QueueOps) is
  `for len(data) > 0 { … data[0:chunk] … ; data = data[chunk:] }`; `pieces` is that loop with nothing done to
  the pieces, and its lemmas are all the loops need.  (The namespace is that of its first user.)
-/
namespace SA.DnsResp

def pieces {α : Type} (chunk : Nat) : Nat → List α → List (List α)
  | 0, _ => []
  | fuel + 1, data => if data.isEmpty then [] else data.take chunk :: pieces chunk fuel (data.drop chunk)

def ceilDiv (n c : Nat) : Nat := (n + c - 1) / c

theorem pieces_nil {α : Type} (chunk fuel : Nat) : pieces chunk fuel ([] : List α) = [] := by
  cases fuel <;> simp [pieces]

theorem pieces_append {α : Type} {k F : Nat} (hk : 0 < k) (hF : 0 < F) {l : List α} (hl : l.length = k) (r : List α) :
    pieces k F (l ++ r) = l :: pieces k (F - 1) r := by
  obtain ⟨F, rfl⟩ := Nat.exists_eq_succ_of_ne_zero (Nat.ne_of_gt hF)
  have : l ≠ [] := by rintro rfl; simp at hl; omega
  rw [pieces, if_neg (by simpa using fun h => absurd h this), List.take_left' hl, List.drop_left' hl]; rfl

theorem pieces_short {α : Type} {k F : Nat} (hF : 0 < F) {l : List α} (hne : l ≠ []) (hl : l.length ≤ k) :
    pieces k F l = [l] := by
  obtain ⟨F, rfl⟩ := Nat.exists_eq_succ_of_ne_zero (Nat.ne_of_gt hF)
  rw [pieces, if_neg (by simpa using hne), List.take_of_length_le hl, List.drop_of_length_le hl, pieces_nil]

theorem length_pos_of_isEmpty {α : Type} {l : List α} (h : ¬ l.isEmpty = true) : 0 < l.length :=
  List.length_pos_iff.mpr (List.isEmpty_eq_false_iff.mp (by simpa using h))

theorem pieces_flatten {α : Type} {chunk fuel : Nat} {data : List α} (hc : 0 < chunk)
    (hf : data.length ≤ fuel) : (pieces chunk fuel data).flatten = data := by
  fun_induction pieces chunk fuel data with
  | case1 data => simpa using hf
  | case2 fuel data he => simpa using he.symm
  | case3 fuel data he ih =>
    have := length_pos_of_isEmpty he
    simp [ih (by simp; omega)]

theorem pieces_bounds {α : Type} {chunk fuel : Nat} {data : List α} (hc : 0 < chunk) :
    ∀ p ∈ pieces chunk fuel data, p ≠ [] ∧ p.length ≤ chunk := by
  fun_induction pieces chunk fuel data with
  | case1 => simp
  | case2 => simp
  | case3 fuel data he ih =>
    simp only [List.mem_cons, forall_eq_or_imp]
    exact ⟨⟨by simpa using ⟨by omega, by simpa using he⟩, by simp; omega⟩, ih⟩

theorem mem_of_mem_pieces {α : Type} {chunk fuel : Nat} {data p : List α} {x : α}
    (hp : p ∈ pieces chunk fuel data) (hx : x ∈ p) : x ∈ data := by
  fun_induction pieces chunk fuel data with
  | case1 => simp at hp
  | case2 => simp at hp
  | case3 fuel data he ih =>
    rcases List.mem_cons.mp hp with rfl | hp
    · exact List.mem_of_mem_take hx
    · exact List.mem_of_mem_drop (ih hp)

theorem ceilDiv_zero {c : Nat} (hc : 0 < c) : ceilDiv 0 c = 0 := Nat.div_eq_of_lt (by omega)

theorem ceilDiv_pos {n c : Nat} (hn : 0 < n) (hc : 0 < c) : ceilDiv n c = (n - 1) / c + 1 := by
  rw [ceilDiv, show n + c - 1 = n - 1 + c by omega, Nat.add_div_right _ hc]

theorem ceilDiv_eq_one {n c : Nat} (hn : 0 < n) (hc : n ≤ c) : ceilDiv n c = 1 := by
  rw [ceilDiv_pos hn (by omega), Nat.div_eq_of_lt (by omega)]

theorem ceilDiv_step {n c : Nat} (hn : 0 < n) (hc : 0 < c) : ceilDiv n c = ceilDiv (n - c) c + 1 := by
  rw [ceilDiv_pos hn hc]
  rcases Nat.lt_or_ge c n with h | h
  · rw [ceilDiv_pos (by omega) hc, show n - 1 = n - c - 1 + c by omega, Nat.add_div_right _ hc]
  · rw [show n - c = 0 by omega, ceilDiv_zero hc, Nat.div_eq_of_lt (by omega)]

theorem pieces_length {α : Type} {chunk fuel : Nat} {data : List α} (hc : 0 < chunk)
    (hf : data.length ≤ fuel) : (pieces chunk fuel data).length = ceilDiv data.length chunk := by
  have h0 := ceilDiv_zero hc
  fun_induction pieces chunk fuel data with
  | case1 data => simp [show data.length = 0 by omega, h0]
  | case2 fuel data he => simp [show data = [] by simpa using he, h0]
  | case3 fuel data he ih =>
    have := length_pos_of_isEmpty he
    rw [List.length_cons, ih (by simp; omega), List.length_drop, ← ceilDiv_step this hc]

theorem pieces_exact {α : Type} {chunk fuel : Nat} {data : List α}
    (hmod : data.length % chunk = 0) : ∀ p ∈ pieces chunk fuel data, p.length = chunk := by
  fun_induction pieces chunk fuel data with
  | case1 => simp
  | case2 => simp
  | case3 fuel data he ih =>
    have hpos := length_pos_of_isEmpty he
    have hge : chunk ≤ data.length := by
      rcases Nat.lt_or_ge data.length chunk with h | h
      · rw [Nat.mod_eq_of_lt h] at hmod; omega
      · exact h
    simp only [List.mem_cons, forall_eq_or_imp]
    exact ⟨by simp; omega, ih (by rw [List.length_drop, ← Nat.mod_eq_sub_mod hge]; exact hmod)⟩

theorem pieces_length_le {α : Type} {chunk : Nat} (hc : 0 < chunk) (fuel : Nat) (data : List α) :
    (pieces chunk fuel data).length ≤ data.length := by
  fun_induction pieces chunk fuel data with
  | case1 => exact Nat.zero_le _
  | case2 => exact Nat.zero_le _
  | case3 fuel data he ih =>
    have := length_pos_of_isEmpty he
    rw [List.length_cons]; rw [List.length_drop] at ih; omega

end SA.DnsResp
