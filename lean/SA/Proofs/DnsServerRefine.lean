/-
  SA.Proofs.DnsServerRefine — the queue pair of a DNS-server session object (SA.Model.DnsServer: InQ / OutQ, `pktStep`,
  `addChunks`) is the server end of the two-endpoint model of C07 (SA.Model.Queue: `serve`, `OutQ.addChunk`) with the
  regenerated source facts `Cfg.gen`: simulation relation `R`, preserved by every event of a session trace.
-/
import SA.Proofs.QueueOps
import SA.Proofs.QueueWindow
import SA.Model.DnsSessTrace
import SA.Proofs.DnsServer

namespace SA.DnsServer
open SA.Queue (Cfg Pkt End Query Resp BEv)

-- both models read the same source fact (the other fields of `Cfg.gen`: `Cfg.gen_*`, SA.Proofs.QueueOps)
theorem gen_max : Cfg.gen.max = SA.Gen.maxCachedChunks := rfl

/-! ### simulation relation -/

structure Rin (i : InQ) (j : SA.Queue.InQ) : Prop where
  next : i.next = j.next
  nlt : j.next < 65536
  buf : i.buf = j.rel
  future : i.future = j.future.map ofPkt
  acked : i.acked = j.acked

structure Rout (o : OutQ) (p : SA.Queue.OutQ) : Prop where
  next : o.next = p.next
  out : o.out = p.out.map ofPkt
  acked : o.acked = p.acked

/-- session queue pair ~ C07 endpoint (ghost fields of the endpoint are unconstrained) -/
def R (q : QPair) (e : End) : Prop := Rin q.1 e.inq ∧ Rout q.2 e.outq

theorem drain_sim : ∀ (f : Nat) (i : InQ) (j : SA.Queue.InQ), Rin i j → Rin (drainFuture f i) (SA.Queue.InQ.drain f j)
  | 0, _, _, h => h
  | f + 1, i, j, h => by
    unfold drainFuture
    rw [SA.Queue.InQ.drain_succ, h.future, h.next, SA.Queue.extractFirst_eq_find, List.find?_map]
    cases hf : j.future.find? ((fun f => f.1 == j.next) ∘ ofPkt) with
    | none => rw [show j.future.find? (fun p => p.seq == j.next) = none from hf]; exact h
    | some p =>
      rw [show j.future.find? (fun p => p.seq == j.next) = some p from hf]
      refine drain_sim f _ _ ⟨?_, ?_, ?_, ?_, h.acked⟩
      · simp [SA.Queue.InQ.appendPacket, u16]
      · simp only [SA.Queue.InQ.appendPacket]; omega
      · exact (congrArg (· ++ p.data) h.buf).trans (SA.Queue.InQ.rel_appendPacket j p).symm
      · exact List.eraseP_map ..

theorem inWindow_eq (next seq : Nat) (hn : next < 65536) (hs : seq < 65536) :
    SA.Queue.inWindowL Cfg.gen next seq = inWindow next seq := by
  rw [SA.Queue.inWindowL_eq Cfg.gen hs, Bool.eq_iff_iff,
    SA.Queue.inWindow_iff Cfg.gen_wlo (Cfg.gen_whi.trans Cfg.gen_max.symm) (by decide) (by decide) hn hs]
  -- the server model's `inWindow` is this condition on `ahead seq next`, written with `u16`
  exact (Bool.and_eq_true_iff.trans (and_congr decide_eq_true_iff decide_eq_true_iff)).symm

/-! the two stages of an in-order `Append` of the server model (`InQ.append_next`) -/

def dNext (i : InQ) (seq : Nat) (data : List Nat) : InQ :=
  drainFuture i.future.length { i with buf := i.buf ++ data, next := u16 (i.next + 1), acked := i.acked ++ [seq] }

def dTrim (q : InQ) : InQ := if q.acked.length > SA.Gen.maxCachedChunks then { q with acked := q.acked.drop 1 } else q

theorem next_sim {i : InQ} {j : SA.Queue.InQ} (h : Rin i j) (seq : Nat) (data : List Nat) :
    Rin (dNext i seq data)
      (SA.Queue.InQ.drain j.future.length { j.appendPacket ⟨seq, data⟩ with acked := j.acked ++ [seq] }) := by
  unfold dNext
  have hlen : j.future.length = i.future.length := by rw [h.future]; simp
  rw [hlen]
  apply drain_sim
  refine ⟨?_, ?_, ?_, ?_, ?_⟩
  · simp [SA.Queue.InQ.appendPacket, u16, h.next]
  · simp only [SA.Queue.InQ.appendPacket]; omega
  · simp [SA.Queue.InQ.rel, SA.Queue.InQ.appendPacket, h.buf]
  · simp [SA.Queue.InQ.appendPacket, h.future]
  · simp [h.acked]

theorem trim_sim {i : InQ} {j : SA.Queue.InQ} (h : Rin i j) :
    Rin (dTrim i) { j with acked := SA.Queue.applyTrim Cfg.gen.inTrim Cfg.gen.max j.acked } := by
  unfold dTrim
  rw [Cfg.gen_inTrim, SA.Queue.applyTrim_two, gen_max, ← h.acked]
  by_cases hl : i.acked.length > SA.Gen.maxCachedChunks
  · rw [if_pos hl, if_pos hl]
    exact ⟨h.next, h.nlt, h.buf, h.future, by simp⟩
  · rw [if_neg hl, if_neg hl]
    exact ⟨h.next, h.nlt, h.buf, h.future, rfl⟩

/-- `InQueue.Append`: both models accept / reject the same packets and stay related -/
theorem append_sim {i : InQ} {j : SA.Queue.InQ} (h : Rin i j) (pkt : Option (Nat × List Nat))
    (hb : ∀ p, pkt = some p → p.1 < 65536) :
    (i.append pkt = none ∧ j.append Cfg.gen (pkt.map toPkt) = (j, false)) ∨
    (∃ i', i.append pkt = some i' ∧ (j.append Cfg.gen (pkt.map toPkt)).2 = true ∧
      Rin i' (j.append Cfg.gen (pkt.map toPkt)).1) := by
  cases pkt with
  | none => right; exact ⟨i, rfl, rfl, h⟩
  | some p =>
    obtain ⟨seq, data⟩ := p
    have hseq : seq < 65536 := hb _ rfl
    simp only [Option.map, toPkt]
    by_cases h1 : seq ∈ j.acked
    · have hc : i.acked.contains seq = true := by rw [h.acked]; simpa using h1
      right
      rw [InQ.append_dup hc, SA.Queue.InQ.append_dup (p := ⟨seq, data⟩) h1]
      exact ⟨i, rfl, rfl, h⟩
    · have hc : i.acked.contains seq = false := by rw [h.acked]; simpa using h1
      by_cases h2 : seq = j.next
      · right
        rw [InQ.append_next hc (by rw [h.next]; exact h2), SA.Queue.InQ.append_next (p := ⟨seq, data⟩) h1 h2]
        exact ⟨_, rfl, rfl, trim_sim (next_sim h seq data)⟩
      · rw [InQ.append_far hc (by rw [h.next]; exact h2), SA.Queue.InQ.append_far (p := ⟨seq, data⟩) h1 h2,
          inWindow_eq j.next seq h.nlt hseq, h.next]
        cases hw : inWindow j.next seq with
        | true =>
          right
          simp only [ite_true]
          refine ⟨_, rfl, trivial, ?_, h.nlt, h.buf, ?_, ?_⟩
          · rfl
          · simp [h.future, ofPkt]
          · simp [h.acked]
        | false =>
          left
          simp

theorem cleanOut_map : ∀ (acked : List Nat) (out : List Pkt),
    acked.foldl (fun o a => o.eraseP (fun c => c.1 == a)) (out.map ofPkt) = (SA.Queue.cleanOut acked out).map ofPkt
  | [], _ => rfl
  | a :: r, out => by
    simp only [List.foldl_cons, SA.Queue.cleanOut]
    rw [List.eraseP_map, SA.Queue.eraseFirstSeq_eq_eraseP]
    exact cleanOut_map r _

theorem clean_sim {o : OutQ} {p : SA.Queue.OutQ} (h : Rout o p) : Rout o.clean (p.clean Cfg.gen) := by
  refine ⟨h.next, ?_, ?_⟩
  · rw [SA.Queue.clean_out, ← cleanOut_map, ← h.out, ← h.acked]; rfl
  · rw [SA.Queue.clean_acked, Cfg.gen_outTrim, SA.Queue.applyTrim_one, gen_max, ← h.acked]
    unfold OutQ.clean
    simp only []
    split
    · rfl
    · rw [show o.acked.length - SA.Gen.maxCachedChunks = 0 by omega]; rfl

theorem updateAcked_sim {o : OutQ} {p : SA.Queue.OutQ} (h : Rout o p) (v g : Nat) :
    Rout (o.updateAcked v) (p.updateAcked Cfg.gen v g) := by
  unfold OutQ.updateAcked
  by_cases hv : v ∈ p.acked
  · have : o.acked.contains v = true := by rw [h.acked]; simpa using hv
    rw [if_pos this, SA.Queue.updateAcked_of_mem g hv]; exact h
  · have : ¬ o.acked.contains v = true := by rw [h.acked]; simpa using hv
    rw [if_neg this, SA.Queue.updateAcked_eq_clean g hv]
    apply clean_sim
    exact ⟨h.next, h.out, by simp [h.acked]⟩

theorem addChunks_sim : ∀ (cs : List (List Nat)) (o : OutQ) (p : SA.Queue.OutQ), Rout o p →
    Rout (o.addChunks cs) (cs.foldl SA.Queue.OutQ.addChunk p)
  | [], _, _, h => h
  | c :: cs, o, p, h => by
    simp only [OutQ.addChunks, List.foldl_cons]
    apply addChunks_sim cs
    refine ⟨?_, ?_, h.acked⟩
    · simp [SA.Queue.addChunk_next, u16, h.next]
    · simp [SA.Queue.addChunk_out, h.out, h.next, ofPkt]

/-- the chunking loop of `OutQueue.Write` is `pieces`, here as in the two-endpoint model (`SA.Queue.chunksAux_eq_pieces`) -/
theorem chunks_eq_pieces (mtu f : Nat) (b : List Nat) : chunks f mtu b = SA.DnsResp.pieces mtu f b := by
  fun_induction chunks f mtu b with
  | case1 => rfl
  | case2 f mtu b he => simp [SA.DnsResp.pieces, he]
  | case3 f mtu b he hl ih => simp [SA.DnsResp.pieces, he, ih]
  | case4 f mtu b he hs =>
    exact (SA.DnsResp.pieces_short (Nat.succ_pos f) (by simpa using he) (Nat.not_lt.mp hs)).symm

/-- the chunking loop of `OutQueue.Write` is the same function in both models -/
theorem chunks_eq' (mtu : Nat) (b : List Nat) : chunks b.length mtu b = SA.Queue.chunks mtu b :=
  (chunks_eq_pieces ..).trans (SA.Queue.chunks_eq_pieces mtu b).symm

/-! ### `packet` = `serve` -/

/-- an answer of `packet` and a response of the two-endpoint model say the same -/
def AnsResp (a : Ans) (r : Resp) : Prop := a = ansOfResp r

theorem ack_eq (n : Nat) : u16 (n + 65535) = SA.Queue.ackOf Cfg.gen n := (SA.Queue.ackOf_one Cfg.gen_ackOff n).symm

theorem pkt_sim {q : QPair} {e : End} (h : R q e) (ack : Nat) (pkt : Option (Nat × List Nat))
    (hb : ∀ p, pkt = some p → p.1 < 65536) (g1 g2 : Nat) :
    R (pktStep q ack pkt) (SA.Queue.serve Cfg.gen e ⟨ack, pkt.map toPkt, g1, g2⟩).1 ∧
    pktAns q ack pkt = ansOfResp (SA.Queue.serve Cfg.gen e ⟨ack, pkt.map toPkt, g1, g2⟩).2 := by
  obtain ⟨hi, ho⟩ := h
  have hu := updateAcked_sim ho ack g1
  unfold pktStep pktAns
  rcases append_sim hi pkt hb with ⟨h1, h2⟩ | ⟨i', h1, h2, h3⟩
  · rw [h1, SA.Queue.serve_err (congrArg Prod.snd h2)]
    exact ⟨⟨hi, hu⟩, rfl⟩
  · rw [h1, SA.Queue.serve_ok h2]
    have hc := clean_sim hu
    refine ⟨⟨h3, hc⟩, ?_⟩
    simp only [ansOfResp, OutQ.nextChunk]
    rw [h3.next, ack_eq, hc.out, List.head?_map]

theorem wr_sim {q : QPair} {e : End} (h : R q e) (d : List Nat) (cs : List (List Nat)) :
    R (q.1, q.2.addChunks cs) (SA.Queue.bstep Cfg.gen e (.wr d cs)) :=
  ⟨h.1, addChunks_sim cs _ _ h.2⟩

/-- the seq-number bound of every packet event of a trace -/
def SeqOk : SEv → Prop
  | .pkt _ (some p) => p.1 < 65536
  | _ => True

/-- **simulation**: related states stay related along a C07 trace and its erasure -/
theorem trace_sim : ∀ (tr : List BEv) (q : QPair) (e : End), R q e → (∀ x ∈ tr, SeqOk (eraseB x)) →
    R ((tr.map eraseB).foldl qstep q) (tr.foldl (SA.Queue.bstep Cfg.gen) e) ∧
    expectedAns q (tr.map eraseB) = (SA.Queue.respTrace Cfg.gen e tr).map ansOfResp
  | [], _, _, h, _ => ⟨h, rfl⟩
  | x :: r, q, e, h, hs => by
    have hs' : ∀ y ∈ r, SeqOk (eraseB y) := fun y hy => hs y (List.mem_cons_of_mem _ hy)
    cases x with
    | serve qy =>
      have hb : ∀ p, qy.pkt.map ofPkt = some p → p.1 < 65536 := by
        intro p hp
        have := hs (.serve qy) (List.mem_cons_self ..)
        simp only [eraseB, hp, SeqOk] at this
        exact this
      have hstep := pkt_sim h qy.ack (qy.pkt.map ofPkt) hb qy.gAck qy.gPkt
      rw [show (qy.pkt.map ofPkt).map toPkt = qy.pkt by cases qy.pkt <;> rfl] at hstep
      have ih := trace_sim r _ _ hstep.1 hs'
      -- the four folds step by their defining equations
      exact ⟨ih.1, congr (congrArg List.cons hstep.2) ih.2⟩
    | wr d cs => exact trace_sim r _ _ (wr_sim h d cs) hs'

theorem init_R : R (({} : InQ), ({} : OutQ)) (SA.Queue.init 0 0).b :=
  ⟨⟨rfl, by decide, rfl, rfl, rfl⟩, ⟨rfl, rfl, rfl⟩⟩

end SA.DnsServer

/-! ### the server end of a two-endpoint history is the fold of `bstep` over `bTrace` -/

namespace SA.Queue

theorem bstep_run (c : Cfg) (mtu : Nat) : ∀ (evs : List Ev) (st : Sys), (∀ e ∈ evs, plainB e = true) →
    (runS c mtu st evs).b = (bTrace c mtu st evs).foldl (bstep c) st.b
  | [], _, _ => rfl
  | e :: es, st, h => by
    have ih := bstep_run c mtu es (stepS c mtu st e) (fun x hx => h x (List.mem_cons_of_mem _ hx))
    have he := h e (List.mem_cons_self ..)
    simp only [runS, bTrace, List.foldl_append]
    rw [ih]
    congr 1
    cases e with
    | write s data =>
      cases s with
      | false => rfl
      | true =>
        simp only [stepS, bEv]
        by_cases hne : st.b.outq.out ≠ []
        · rw [writeEnd_busy hne, if_pos hne]; rfl
        · rw [writeEnd_idle (Decidable.not_not.mp hne), if_neg hne]; rfl
    | read s n => cases s; rfl; cases he
    | inject s sq data => cases s; rfl; cases he
    | fack s v => cases s; rfl; cases he
    | xchg f =>
      cases f with
      | rp k =>
        simp only [stepS, xchgS, bEv]
        cases st.hist[k]? <;> rfl
      | _ => rfl

theorem acc_trace (c : Cfg) : ∀ (tr : List BEv) (e : End),
    (tr.foldl (bstep c) e).acc = e.acc ++ SA.DnsServer.writtenOf (tr.map SA.DnsServer.eraseB)
  | [], e => by simp [SA.DnsServer.writtenOf]
  | .serve q :: r, e => by
    simp only [List.foldl_cons, List.map_cons, SA.DnsServer.eraseB, SA.DnsServer.writtenOf]
    rw [acc_trace c r]
    congr 1
    exact End.acc_congr (serve_accR c e q)
  | .wr d cs :: r, e => by
    simp only [List.foldl_cons, List.map_cons, SA.DnsServer.eraseB, SA.DnsServer.writtenOf]
    rw [acc_trace c r]
    simp [bstep, End.acc, List.append_assoc]

end SA.Queue
