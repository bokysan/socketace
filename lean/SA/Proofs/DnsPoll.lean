/-
  SA.Proofs.DnsPoll — the poll loop of the goroutine `ClientDnsConnection.Handshake` starts
  (`pollBody`, `pollLoop` of SA.Model.DnsWrites) on a healthy path.

  * With `pollArg = 0` (`dc.SendAndReceive(dc.out.NextChunk())`) one turn is the two SA.Queue events
    `.xchg .ql` (`NextChunk` → `cleanAckedChunks`) and `.xchg .d` (the delivered exchange); with `pollStops = 0`
    `n` turns are `pollEvs n`, a write-free continuation with `n` delivered exchanges — the kind
    that drains both out-queues (`lossy_tail_drains` of SA.Proofs.QueueLive).
  * With `pollArg = 1` (`dc.SendAndReceive(nil)`) a turn on a healthy path is `bareXchg … true true`, whatever
    the bookkeeping fields of the core are; a state that one bare exchange maps to itself stays put for every
    number of turns.
-/
import SA.Proofs.DnsWrites
import SA.Proofs.QueueLive
namespace SA.DnsWrites
open SA.Queue

/-- the SA.Queue events of `n` turns of the loop on a healthy path -/
def pollEvs : Nat → List Ev
  | 0 => []
  | n + 1 => Ev.xchg .ql :: Ev.xchg .d :: pollEvs n

theorem pollEvs_all_tailOk (K : Nat) : ∀ n, (pollEvs n).all (tailOk K) = true
  | 0 => rfl
  | n + 1 => by simp [pollEvs, tailOk, pollEvs_all_tailOk K n]

theorem pollEvs_count : ∀ n, (pollEvs n).countP isD = n
  | 0 => rfl
  | n + 1 => by simp [pollEvs, isD, List.countP_cons, pollEvs_count n]

/-- the path is healthy: the script is used up and the default fate is `ok` -/
structure Core.Healthy (c : Core) : Prop where
  fates : c.fates = []
  dflt : c.dflt = .ok

section
variable {f : Facts} {mtu : Nat}

theorem pollBody_healthy (hpoll : f.pollArg = 0) {k : Nat} (hk : f.tries = k + 1) {c : Core} (h : c.Healthy) :
    (pollBody f mtu c).1.sys = runS f.cfg mtu c.sys [.xchg .ql, .xchg .d] ∧ (pollBody f mtu c).1.Healthy := by
  unfold pollBody
  -- `hk`: there is a first try (with no tries `sendRecv` returns nil without sending); its fate is the default `ok`,
  -- and a delivered try ends the retry loop
  rw [if_pos hpoll, hk, sendRecv]
  simp only [tryOnce, nextChunk, Core.ap, h.fates, h.dflt, List.head?_nil, Option.getD_none]
  exact ⟨rfl, rfl, rfl⟩

theorem pollLoop_healthy (hpoll : f.pollArg = 0) (hstop : f.pollStops = 0) {k : Nat} (hk : f.tries = k + 1) :
    ∀ (n : Nat) (c : Core), c.Healthy →
      (pollLoop f mtu n c).sys = runS f.cfg mtu c.sys (pollEvs n) ∧ (pollLoop f mtu n c).Healthy := by
  intro n
  induction n with
  | zero => intro c h; exact ⟨rfl, h⟩
  | succ n ih =>
    intro c h
    obtain ⟨h1, h2⟩ := pollBody_healthy (mtu := mtu) hpoll hk h
    unfold pollLoop
    simp only [hstop, ne_eq, not_true_eq_false, and_false, if_false]
    obtain ⟨i1, i2⟩ := ih _ h2
    refine ⟨?_, i2⟩
    rw [i1, h1]
    rfl

theorem pollBody_bare (hpoll : f.pollArg ≠ 0) {k : Nat} (hk : f.tries = k + 1) {c : Core} (h : c.Healthy) :
    (pollBody f mtu c).1.sys = (bareXchg f.cfg c.sys true true).1 ∧ (pollBody f mtu c).1.Healthy := by
  unfold pollBody
  rw [if_neg hpoll, hk, sendRecvBare]   -- as in `pollBody_healthy`: one try, delivered
  simp only [tryOnceBare, h.fates, h.dflt, List.head?_nil, Option.getD_none]
  exact ⟨trivial, rfl, rfl⟩

theorem pollLoop_bare_fix (hpoll : f.pollArg ≠ 0) {k : Nat} (hk : f.tries = k + 1) {S : Sys}
    (hfix : (bareXchg f.cfg S true true).1 = S) :
    ∀ (n : Nat) (c : Core), c.Healthy → c.sys = S → (pollLoop f mtu n c).sys = S := by
  intro n
  induction n with
  | zero => intro c _ hs; exact hs
  | succ n ih =>
    intro c h hs
    obtain ⟨h1, h2⟩ := pollBody_bare (mtu := mtu) hpoll hk h
    have hS : (pollBody f mtu c).1.sys = S := by rw [h1, hs, hfix]
    unfold pollLoop
    simp only
    split
    · exact hS
    · exact ih _ h2 hS

end

end SA.DnsWrites
