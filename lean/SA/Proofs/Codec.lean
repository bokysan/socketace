/-
  SA.Proofs.Codec — the round trips, alphabet confinement and lengths behind C08, codec by codec.

  The text codecs over an alphabet of 2^k characters (Base32, Base64, Base64u, Base128) share the first three sections:
  bits, the radix-2^k round trip, alphabets.  A codec's own section — a further one goes the same way — then shows that
    1. the encoder emits `(radixDigits k bs).map (alphaChar alpha)` — by definition (`b32Enc`, `b64EncWith`) or by a
       lemma about the repo's loop (`b128Enc_eq`, from `b128_loop_spec`);
    2. with `GoodAlpha alpha (2^k)` (one kernel evaluation per alphabet, in Proofs/CodecGen) the decoder reads such a
       text back as its digits: `b32Dec_text`, `b64Dec_text`, `b128Dec_text`, about any digit string below 2^k;
    3. the decoder's byte count for `⌈8n/k⌉` characters is `n` (`b32Bytes_len`, `b64Bytes_len`), so that
       `radix_roundtrip` ends the round trip;
    4. alphabet confinement is `GoodAlpha.map_subset` with `radixDigits_lt`, the length is `radixText_length`.
  ascii85 (Base85 is ascii85 under a substitution) and basE91 are not radix codecs; their sections say how they go.
-/
import SA.Model.Codec
import SA.Proofs.Bytes

namespace SA.Codec

/-! ### bits, most significant first: appending on the right multiplies what is there by a power of two
    (`fromBits_append`), splitting off the low `b` bits divides by `2^b` (`toBits_split`) -/

@[simp] theorem toBits_length (n x : Nat) : (toBits n x).length = n := by
  induction n with
  | zero => rfl
  | succ n ih => simp [toBits, ih]

theorem fromBits_toBits (n x : Nat) : fromBits (toBits n x) = x % 2 ^ n := by
  induction n with
  | zero => simp [toBits, fromBits, Nat.mod_one]
  | succ n ih =>
    -- bit `n` on top of the `n` bits below it
    simp only [toBits, fromBits, toBits_length, ih]
    rw [Nat.mod_pow_succ, Nat.testBit_eq_decide_div_mod_eq]
    rcases Nat.mod_two_eq_zero_or_one (x / 2 ^ n) with h | h <;> simp [h] <;> omega

theorem fromBits_lt (l : List Bool) : fromBits l < 2 ^ l.length := by
  induction l with
  | nil => simp [fromBits]
  | cons b bs ih =>
    simp only [fromBits, List.length_cons, Nat.pow_succ]
    split <;> omega

theorem toBits_mod (n m x : Nat) (h : n ≤ m) : toBits n (x % 2 ^ m) = toBits n x := by
  induction n with
  | zero => rfl
  | succ n ih =>
    simp only [toBits, Nat.testBit_mod_two_pow]
    rw [ih (by omega)]
    simp [show n < m by omega]

theorem toBits_fromBits (l : List Bool) : toBits l.length (fromBits l) = l := by
  induction l with
  | nil => rfl
  | cons b bs ih =>
    have hlt := fromBits_lt bs
    simp only [List.length_cons, toBits, fromBits]
    congr 1
    · cases b
      · simpa using Nat.testBit_lt_two_pow hlt
      · simp [Nat.testBit_two_pow_add_eq, Nat.testBit_lt_two_pow hlt]
    · rw [← toBits_mod bs.length bs.length _ (Nat.le_refl _)]
      cases b <;> simp [Nat.mod_eq_of_lt hlt, ih]

theorem toBits_split (a b v : Nat) : toBits (a + b) v = toBits a (v / 2 ^ b) ++ toBits b v := by
  induction a with
  | zero => simp [toBits]
  | succ a ih =>
    rw [show a + 1 + b = (a + b) + 1 by omega]
    simp only [toBits, ih, Nat.testBit_div_two_pow, List.cons_append]

theorem fromBits_append (a b : List Bool) :
    fromBits (a ++ b) = fromBits a * 2 ^ b.length + fromBits b := by
  induction a with
  | nil => simp [fromBits]
  | cons x xs ih =>
    simp only [List.cons_append, fromBits, ih, List.length_append, Nat.pow_add]
    split <;> simp [Nat.add_mul, Nat.add_assoc]

theorem fromBits_replicate_false (n : Nat) : fromBits (List.replicate n false) = 0 := by
  induction n with
  | zero => rfl
  | succ n ih => simp [List.replicate_succ, fromBits, ih]

theorem stack_lt {lo hi a b : Nat} (hlo : lo < 2 ^ a) (hhi : hi < 2 ^ b) : lo + hi * 2 ^ a < 2 ^ (a + b) :=
  calc lo + hi * 2 ^ a < (hi + 1) * 2 ^ a := by rw [Nat.succ_mul]; omega
    _ ≤ 2 ^ b * 2 ^ a := Nat.mul_le_mul_right _ hhi
    _ = 2 ^ (a + b) := by rw [Nat.pow_add, Nat.mul_comm]

theorem div_lt_pow (q a b : Nat) (h : q < 2 ^ (a + b)) : q / 2 ^ b < 2 ^ a := by
  rw [Nat.div_lt_iff_lt_mul (Nat.pow_pos (by omega)), ← Nat.pow_add]; exact h

/-! ### radix 2^k: the digits of a bit string spell it again, followed by fewer than `k` zero bits
    (`digitsToBits_digitsOf`), and reading bytes off a bit string that begins with the bits of these bytes gives them back
    (`takeDigits_digitsToBits`): `radix_roundtrip` -/

@[simp] theorem takeDigits_length (k m : Nat) (bits : List Bool) : (takeDigits k m bits).length = m := by
  induction m generalizing bits with
  | zero => rfl
  | succ m ih => simp [takeDigits, ih]

theorem takeDigits_digitsToBits (k : Nat) (ds : List Nat) (rest : List Bool)
    (h : ∀ d ∈ ds, d < 2 ^ k) : takeDigits k ds.length (digitsToBits k ds ++ rest) = ds := by
  induction ds with
  | nil => rfl
  | cons d ds ih =>
    obtain ⟨hd, hds⟩ := List.forall_mem_cons.1 h
    have := ih hds
    rw [digitsToBits] at this ⊢
    rw [List.flatMap_cons, List.length_cons, takeDigits, List.append_assoc, List.take_left' (toBits_length k d),
      List.drop_left' (toBits_length k d), fromBits_toBits, Nat.mod_eq_of_lt hd, this]

theorem digitsToBits_takeDigits (k m : Nat) (bits : List Bool) (h : k * m ≤ bits.length) :
    digitsToBits k (takeDigits k m bits) = bits.take (k * m) := by
  induction m generalizing bits with
  | zero => simp [takeDigits, digitsToBits]
  | succ m ih =>
    rw [Nat.mul_succ] at h
    have hl : (bits.take k).length = k := by rw [List.length_take]; omega
    have ih' := ih (bits.drop k) (by rw [List.length_drop]; omega)
    have := toBits_fromBits (bits.take k)
    rw [hl] at this
    rw [digitsToBits] at ih' ⊢
    rw [takeDigits, List.flatMap_cons, this, ih', Nat.mul_succ, Nat.add_comm, List.take_add]

theorem takeDigits_lt (k m : Nat) (bits : List Bool) : ∀ d ∈ takeDigits k m bits, d < 2 ^ k := by
  induction m generalizing bits with
  | zero => nofun
  | succ m ih =>
    exact List.forall_mem_cons.2 ⟨Nat.lt_of_lt_of_le (fromBits_lt _)
      (Nat.pow_le_pow_right (by decide) (List.length_take_le ..)), ih _⟩

theorem bytesToBits_length (bs : List Nat) : (bytesToBits bs).length = 8 * bs.length := by
  induction bs with
  | nil => rfl
  | cons b bs ih => simp [bytesToBits, List.flatMap_cons] at *; omega

theorem digitsToBits_digitsOf (k : Nat) (hk : 0 < k) (bits : List Bool) :
    ∃ pad, digitsToBits k (digitsOf k bits) = bits ++ pad := by
  -- `m = ⌈len/k⌉` digits hold `k·m` bits, between `len` and `len + k - 1`
  have h1 := Nat.lt_mul_div_succ (bits.length + k - 1) hk
  have h2 := Nat.mul_div_le (bits.length + k - 1) k
  rw [Nat.mul_succ] at h1
  rw [digitsOf, digitsToBits_takeDigits _ _ _ (by simp; omega), List.take_append,
    List.take_of_length_le (by omega)]
  exact ⟨_, rfl⟩

theorem radix_roundtrip (k : Nat) (hk : 0 < k) (bs : List Nat) (hb : Bytes bs) :
    radixBytes k bs.length (radixDigits k bs) = bs := by
  obtain ⟨pad, h⟩ := digitsToBits_digitsOf k hk (bytesToBits bs)
  rw [radixBytes, radixDigits, h]
  exact takeDigits_digitsToBits 8 bs pad hb

theorem radixDigits_lt (k : Nat) (bs : List Nat) : ∀ d ∈ radixDigits k bs, d < 2 ^ k :=
  takeDigits_lt _ _ _

theorem radixDigits_length (k : Nat) (bs : List Nat) :
    (radixDigits k bs).length = (8 * bs.length + k - 1) / k := by
  simp [radixDigits, digitsOf, bytesToBits_length]

theorem radixText_length (k : Nat) (alpha bs : List Nat) :
    ((radixDigits k bs).map (alphaChar alpha)).length = (8 * bs.length + k - 1) / k := by
  rw [List.length_map, radixDigits_length]

/- the digit stream read from the front, for an encoder that is written as a loop -/

theorem digitsOf_nil (k : Nat) (hk : 0 < k) : digitsOf k [] = [] := by
  simp [digitsOf, Nat.div_eq_of_lt (show k - 1 < k by omega), takeDigits]

theorem digitsOf_cons (k : Nat) (hk : 0 < k) (h t : List Bool) (hl : h.length = k) :
    digitsOf k (h ++ t) = fromBits h :: digitsOf k t := by
  unfold digitsOf
  have : ((h ++ t).length + k - 1) / k = (t.length + k - 1) / k + 1 := by
    rw [List.length_append, hl, show k + t.length + k - 1 = t.length + k - 1 + k by omega, Nat.add_div_right _ hk]
  rw [this, takeDigits, List.append_assoc, List.take_left' hl, List.drop_left' hl]

theorem digitsOf_short (k : Nat) (p : List Bool) (h1 : 0 < p.length) (h2 : p.length ≤ k) :
    digitsOf k p = [fromBits p * 2 ^ (k - p.length)] := by
  unfold digitsOf
  have : (p.length + k - 1) / k = 1 := by
    rw [show p.length + k - 1 = p.length - 1 + k by omega, Nat.add_div_right _ (by omega), Nat.div_eq_of_lt (by omega)]
  rw [this]
  simp only [takeDigits, List.take_append, List.take_of_length_le h2, List.take_replicate,
    fromBits_append, fromBits_replicate_false, List.length_replicate]
  have : min (k - p.length) (k - 1) = k - p.length := by omega
  rw [this]; rfl

/-! ### alphabets: with `GoodAlpha` the text of a digit string can be read back — no character is taken for a newline or
    rejected, and each gives its digit (`GoodAlpha.idx`).  One evaluation over the table establishes it
    (`GoodAlpha.of_check`). -/

/-- what every proof about a text codec needs from its alphabet: `n` different DNS-safe characters -/
structure GoodAlpha (alpha : List Nat) (n : Nat) : Prop where
  len : alpha.length = n
  nodup : alpha.Nodup
  safe : ∀ c ∈ alpha, dnsSafe c = true

namespace GoodAlpha
variable {alpha : List Nat} {n : Nat} (g : GoodAlpha alpha n)
include g

theorem char_eq {d : Nat} (h : d < n) : alphaChar alpha d = alpha[d]'(g.len ▸ h) := by
  simp [alphaChar, List.getD_eq_getElem?_getD, List.getElem?_eq_getElem (g.len ▸ h)]

theorem mem {d : Nat} (h : d < n) : alphaChar alpha d ∈ alpha := by
  rw [g.char_eq h]; exact List.getElem_mem _

theorem idx {d : Nat} (h : d < n) : alphaIdx alpha (alphaChar alpha d) = some d := by
  have hd : d < alpha.length := g.len ▸ h
  simp only [alphaIdx, g.char_eq h, g.nodup.idxOf_getElem d hd, hd, if_true]

theorem nl {d : Nat} (h : d < n) : isNewline (alphaChar alpha d) = false := by
  have := g.safe _ (g.mem h)
  simp only [dnsSafe, Bool.and_eq_true, decide_eq_true_eq] at this
  simp only [isNewline, Bool.or_eq_false_iff, beq_eq_false_iff_ne]
  omega

theorem map_subset {ds : List Nat} (h : ∀ d ∈ ds, d < n) : ∀ c ∈ ds.map (alphaChar alpha), c ∈ alpha :=
  List.forall_mem_map.2 fun d hd => g.mem (h d hd)

theorem filter_newline_map {ds : List Nat} (h : ∀ d ∈ ds, d < n) :
    (ds.map (alphaChar alpha)).filter (fun c => !isNewline c) = ds.map (alphaChar alpha) :=
  List.filter_eq_self.2 (List.forall_mem_map.2 fun d hd => by rw [g.nl (h d hd)]; rfl)

theorem filterMap_idx_map {ds : List Nat} (h : ∀ d ∈ ds, d < n) :
    (ds.map (alphaChar alpha)).filterMap (alphaIdx alpha) = ds := by
  induction ds with
  | nil => rfl
  | cons d ds ih =>
    obtain ⟨hd, hds⟩ := List.forall_mem_cons.1 h
    rw [List.map_cons, List.filterMap_cons, g.idx hd, ih hds]

theorem all_idx_map {ds : List Nat} (h : ∀ d ∈ ds, d < n) :
    (ds.map (alphaChar alpha)).all (fun c => (alphaIdx alpha c).isSome) = true :=
  List.all_eq_true.2 (List.forall_mem_map.2 fun d hd => by rw [g.idx (h d hd)]; rfl)

end GoodAlpha

/-- the bytes of a table as a bit mask, for kernel evaluation: built in one pass over the table, after which membership
    is one bit test (`2 ^ _`, `|||`, `testBit` on literals are single kernel steps), where `contains` makes a pass -/
def mask (l : List Nat) : Nat := l.foldr (fun b m => 2 ^ b ||| m) 0

theorem contains_eq_testBit (l : List Nat) (c : Nat) : l.contains c = (mask l).testBit c := by
  induction l with
  | nil => simp [mask]
  | cons a l ih =>
    show (a :: l).contains c = (2 ^ a ||| mask l).testBit c
    rw [List.contains_cons, ih, Nat.testBit_or, Nat.testBit_two_pow]
    congr 1
    rw [Bool.eq_iff_iff, beq_iff_eq, decide_eq_true_eq, eq_comm]

/-- Boolean `Nodup` in one pass: the mask of a suffix, and whether every element's bit was still clear when it was added -/
def distinctAux : List Nat → Nat × Bool
  | [] => (0, true)
  | a :: l => match distinctAux l with | (m, ok) => (2 ^ a ||| m, !m.testBit a && ok)

theorem distinctAux_spec : ∀ l : List Nat, (distinctAux l).1 = mask l ∧ ((distinctAux l).2 = true → l.Nodup)
  | [] => ⟨rfl, fun _ => List.nodup_nil⟩
  | a :: l => by
    obtain ⟨h1, h2⟩ := distinctAux_spec l
    rw [distinctAux]
    generalize distinctAux l = r at h1 h2
    obtain ⟨m, ok⟩ := r
    subst h1
    refine ⟨rfl, fun h => ?_⟩
    simp only [Bool.and_eq_true, Bool.not_eq_true', ← contains_eq_testBit, List.contains_eq_mem,
      decide_eq_false_iff_not] at h
    exact List.nodup_cons.2 ⟨h.1, h2 h.2⟩

theorem GoodAlpha.of_check {alpha : List Nat} {n : Nat}
    (h : (alpha.length == n && (distinctAux alpha).2 && alpha.all dnsSafe) = true) : GoodAlpha alpha n := by
  simp only [Bool.and_eq_true, beq_iff_eq, List.all_eq_true] at h
  exact ⟨h.1.1, (distinctAux_spec alpha).2 h.1.2, h.2⟩

/-! ### Base32 / Base64: the stdlib decoders on a text without foreign characters are `radixBytes` on its digits, with a
    byte count taken from the number of characters; for the `⌈8n/k⌉` characters of `n` bytes that count is `n` -/

theorem b32Bytes_add (t c : Nat) (hc : c < 8) : b32Bytes (8 * t + c) = 5 * t + b32Bytes c := by
  simp only [b32Bytes, Nat.mul_add_div (by decide : 8 > 0), Nat.mul_add_mod, Nat.div_eq_of_lt hc, Nat.mod_eq_of_lt hc]
  omega

theorem b32Bytes_len (n : Nat) : b32Bytes ((8 * n + 5 - 1) / 5) = n := by
  -- `n = 5t + r` bytes are `8t + ⌈8r/5⌉` characters
  rw [show (8 * n + 5 - 1) / 5 = 8 * (n / 5) + (8 * (n % 5) + 4) / 5 by omega, b32Bytes_add _ _ (by omega),
    (by decide : ∀ r, r < 5 → b32Bytes ((8 * r + 4) / 5) = r) _ (Nat.mod_lt _ (by decide))]
  omega

theorem b64Bytes_len (n : Nat) : b64Bytes ((8 * n + 6 - 1) / 6) = n ∧ (8 * n + 6 - 1) / 6 % 4 ≠ 1 := by
  unfold b64Bytes; omega

theorem firstBad_none {p : Nat → Bool} {l : List Nat} {i : Nat} (h : l.all p = true) :
    firstBad p l i = none := by
  induction l generalizing i with
  | nil => rfl
  | cons c l ih =>
    simp only [List.all_cons, Bool.and_eq_true] at h
    simp [firstBad, h.1, ih h.2]

theorem b32Dec_text (g : GoodAlpha Gen.cb32 32) (ds : List Nat) (h : ∀ d ∈ ds, d < 32) :
    b32Dec (ds.map (alphaChar Gen.cb32)) = some (radixBytes 5 (b32Bytes ds.length) ds) := by
  unfold b32Dec
  simp only [g.filter_newline_map h, firstBad_none (g.all_idx_map h), g.filterMap_idx_map h, List.length_map]

theorem b64Dec_text {alpha : List Nat} (g : GoodAlpha alpha 64) (ds : List Nat) (h : ∀ d ∈ ds, d < 64) :
    b64DecWith alpha (ds.map (alphaChar alpha)) =
      if ds.length % 4 = 1 then none else some (radixBytes 6 (b64Bytes ds.length) ds) := by
  unfold b64DecWith
  simp only [g.filter_newline_map h, g.all_idx_map h, g.filterMap_idx_map h, List.length_map, if_true, beq_iff_eq]

theorem b32_roundtrip (g : GoodAlpha Gen.cb32 32) (bs : List Nat) (hb : Bytes bs) :
    b32Dec (b32Enc bs) = some bs := by
  rw [b32Enc, b32Dec_text g _ (radixDigits_lt 5 bs), radixDigits_length, b32Bytes_len, radix_roundtrip 5 (by decide) bs hb]

theorem b64_roundtrip (alpha : List Nat) (g : GoodAlpha alpha 64) (bs : List Nat) (hb : Bytes bs) :
    b64DecWith alpha (b64EncWith alpha bs) = some bs := by
  have := b64Bytes_len bs.length
  rw [b64EncWith, b64Dec_text g _ (radixDigits_lt 6 bs), radixDigits_length, if_neg this.2, this.1,
    radix_roundtrip 6 (by decide) bs hb]

/-! ### Base128: the repo's encoder loop computes the radix-2^7 digits; luci's decoder is `radixBytes` behind a length
    check -/

/-- a byte pushed behind the pending bits `p`: the first seven bits make a digit, the low `|p| + 1` bits of the byte
    stay pending -/
theorem digitsOf_push (p : List Bool) (v : Nat) (t : List Bool) (hp : p.length ≤ 6) (hv : v < 256) :
    digitsOf 7 (p ++ (toBits 8 v ++ t)) =
      (fromBits p * 2 ^ (7 - p.length) + v / 2 ^ (p.length + 1)) :: digitsOf 7 (toBits (p.length + 1) v ++ t) := by
  have h8 : 7 - p.length + (p.length + 1) = 8 := by omega
  have hdiv : v / 2 ^ (p.length + 1) < 2 ^ (7 - p.length) := div_lt_pow v _ _ (by rwa [h8])
  have := toBits_split (7 - p.length) (p.length + 1) v
  rw [h8] at this
  rw [this, List.append_assoc, ← List.append_assoc p, digitsOf_cons 7 (by decide) _ _ (by simp; omega),
    fromBits_append, toBits_length, fromBits_toBits, Nat.mod_eq_of_lt hdiv]

/-- the loop follows the digit stream: bufByte holds the pending bits `p` (at most six, at the top of a digit), whichByte
    is their number plus one -/
theorem b128_loop_spec (bs : List Nat) (hb : Bytes bs) (p : List Bool) (hp : p.length ≤ 6) :
    b128EncLoop true (p.length + 1) (fromBits p * 2 ^ (7 - p.length)) bs = digitsOf 7 (p ++ bytesToBits bs) := by
  induction bs generalizing p with
  | nil =>
    rw [bytesToBits, List.flatMap_nil, List.append_nil, b128EncLoop]
    cases p with
    | nil => simp [digitsOf_nil]
    | cons b p => rw [digitsOf_short 7 _ (by simp) (by omega)]; simp
  | cons v rest ih =>
    rw [show bytesToBits (v :: rest) = toBits 8 v ++ bytesToBits rest from List.flatMap_cons ..,
      digitsOf_push p v _ hp hb.head, b128EncLoop]
    by_cases h7 : p.length + 1 = 7
    · -- seven bits pending: they leave at once
      have : b128EncLoop true 1 0 rest = digitsOf 7 (bytesToBits rest) := ih hb.tail [] (by decide)
      rw [if_pos (by simpa using h7), this, h7, digitsOf_cons 7 (by decide) _ _ (toBits_length 7 v), fromBits_toBits,
        Nat.sub_self, Nat.pow_zero, Nat.mul_one]
    · have := ih hb.tail (toBits (p.length + 1) v) (by simp; omega)
      rw [toBits_length, fromBits_toBits] at this
      rw [if_neg (by simpa using h7), this]

/-- the repaired `Base128Encoder.Encode` is the radix-2^7 text codec -/
theorem b128Enc_eq (hfix : Gen.b128TailGuarded = true) (bs : List Nat) (hb : Bytes bs) :
    b128Enc bs = (radixDigits 7 bs).map (alphaChar Gen.cb128) := by
  have : b128EncLoop true 1 0 bs = digitsOf 7 (bytesToBits bs) := b128_loop_spec bs hb [] (by decide)
  rw [b128Enc, hfix, this, escape128, radixDigits]

theorem b128Dec_text (g : GoodAlpha Gen.cb128 128) (ds : List Nat) (h : ∀ d ∈ ds, d < 128) :
    b128Dec (escape128 ds) =
      if (ds.length * 7 / 8 * 8 + 6) / 7 ≠ ds.length then none else some (radixBytes 7 (ds.length * 7 / 8) ds) := by
  have : unescape128 (escape128 ds) = ds := by
    rw [unescape128, escape128, List.map_map]
    exact (List.map_congr_left fun d hd => by simp [g.idx (h d hd)]).trans (List.map_id ds)
  simp only [b128Dec, this, bne_iff_ne]

theorem b128_roundtrip (g : GoodAlpha Gen.cb128 128) (hfix : Gen.b128TailGuarded = true)
    (bs : List Nat) (hb : Bytes bs) : b128Dec (b128Enc bs) = some bs := by
  rw [b128Enc_eq hfix bs hb, ← escape128, b128Dec_text g _ (radixDigits_lt 7 bs), radixDigits_length,
    show (8 * bs.length + 7 - 1) / 7 * 7 / 8 = bs.length by omega, if_neg (by omega), radix_roundtrip 7 (by decide) bs hb]

/-! ### ascii85: the decoder's accumulator after the leading digits of a group is a quotient of the group's value
    (`a85_digit`, Horner); a full group gives its four bytes back (`a85_group`); a short final group is flushed by rounding
    up, which the bytes kept do not see (`a85_flush`, `a85_tail1..3`).

    `a85DecLoop` is unfolded by `conv … unfold` throughout: `simp [a85DecLoop]` makes Lean derive the function's
    equation lemmas, which takes minutes. -/

theorem a85_cons (cap ndst v nb b : Nat) (rest : List Nat) :
    a85DecLoop cap ndst v nb (b :: rest) =
    if cap - ndst < 4 then some []
    else if b ≤ 32 then a85DecLoop cap ndst v nb rest
    else if (b == 122 && nb == 0) = true then
      (a85DecLoop cap (ndst + 4) 0 0 rest).map ([0, 0, 0, 0] ++ ·)
    else if (decide (33 ≤ b) && decide (b ≤ 117)) = true then
      if (nb + 1 == 5) = true then (a85DecLoop cap (ndst + 4) 0 0 rest).map (be32Bytes ((v * 85 + (b - 33)) % 4294967296) ++ ·)
      else a85DecLoop cap ndst ((v * 85 + (b - 33)) % 4294967296) (nb + 1) rest
    else none := by
  conv => lhs; unfold a85DecLoop

/-- `z` stands for a group of four zero bytes (`a85_group` is the same statement for a group that is not zero) -/
theorem a85_z {cap ndst a b c d : Nat} {rest : List Nat} (hz : be32 a b c d = 0) (hc : ndst + 4 ≤ cap) :
    a85DecLoop cap ndst 0 0 (122 :: rest) = (a85DecLoop cap (ndst + 4) 0 0 rest).map ([a, b, c, d] ++ ·) := by
  unfold be32 at hz
  obtain ⟨rfl, rfl, rfl, rfl⟩ : a = 0 ∧ b = 0 ∧ c = 0 ∧ d = 0 := by omega
  have h1 : ¬ (cap - ndst < 4) := by omega
  rw [a85_cons, if_neg h1, if_neg (by omega)]
  simp

/-- Horner step on the base-85 digits of `N < 2^32`: the accumulator holds `N / (85·P)`, the next digit is `N / P % 85` -/
theorem horner85 (N P : Nat) (h : N < 4294967296) :
    (N / (P * 85) * 85 + N / P % 85) % 4294967296 = N / P := by
  rw [← Nat.div_div_eq_div_mul, Nat.div_add_mod']
  exact Nat.mod_eq_of_lt (Nat.lt_of_le_of_lt (Nat.div_le_self _ _) h)

theorem a85_cons_digit {cap ndst v nb d : Nat} {rest : List Nat} (hd : d < 85) (hc : ndst + 4 ≤ cap) :
    a85DecLoop cap ndst v nb ((d + 33) :: rest) =
      if (nb + 1 == 5) = true then (a85DecLoop cap (ndst + 4) 0 0 rest).map (be32Bytes ((v * 85 + d) % 4294967296) ++ ·)
      else a85DecLoop cap ndst ((v * 85 + d) % 4294967296) (nb + 1) rest := by
  have h3 : (d + 33 == 122) = false := by rw [beq_eq_false_iff_ne]; omega
  have h4 : (decide (33 ≤ d + 33) && decide (d + 33 ≤ 117)) = true := by
    rw [Bool.and_eq_true, decide_eq_true_eq, decide_eq_true_eq]; omega
  rw [a85_cons, if_neg (by omega), if_neg (by omega), h3, Bool.false_and, if_neg (by simp), if_pos h4,
    Nat.add_sub_cancel]

/-- the decoder reads one of the first four digits of `N` -/
theorem a85_digit {cap ndst : Nat} (N P : Nat) {v nb : Nat} {rest : List Nat} (hv : v = N / (P * 85)) (hN : N < 4294967296)
    (hc : ndst + 4 ≤ cap) (hnb : nb < 4) :
    a85DecLoop cap ndst v nb ((N / P % 85 + 33) :: rest) = a85DecLoop cap ndst (N / P) (nb + 1) rest := by
  rw [a85_cons_digit (Nat.mod_lt _ (by decide)) hc, if_neg (by rw [beq_iff_eq]; omega), hv, horner85 N P hN]

/-- … and the fifth, which completes the group -/
theorem a85_digit5 {cap ndst N : Nat} {rest : List Nat} (hN : N < 4294967296) (hc : ndst + 4 ≤ cap) :
    a85DecLoop cap ndst (N / 85) 4 ((N % 85 + 33) :: rest)
      = (a85DecLoop cap (ndst + 4) 0 0 rest).map (be32Bytes N ++ ·) := by
  have := horner85 N 1 hN
  rw [Nat.one_mul, Nat.div_one] at this
  rw [a85_cons_digit (Nat.mod_lt _ (by decide)) hc, if_pos (by rfl), this]

/-- the decoder after the first two, three, four digits of `N` (52200625 = 85⁴, 614125 = 85³, 7225 = 85²) -/
theorem a85_two {cap ndst N : Nat} {rest : List Nat} (hN : N < 4294967296) (hc : ndst + 4 ≤ cap) :
    a85DecLoop cap ndst 0 0 ((a85Digits N).take 2 ++ rest) = a85DecLoop cap ndst (N / 614125) 2 rest := by
  show a85DecLoop cap ndst 0 0 (_ :: _ :: rest) = _
  rw [a85_digit N 52200625 (Nat.div_eq_of_lt (by omega)).symm hN hc (by decide),
    a85_digit N 614125 rfl hN hc (by decide)]

theorem a85_three {cap ndst N : Nat} {rest : List Nat} (hN : N < 4294967296) (hc : ndst + 4 ≤ cap) :
    a85DecLoop cap ndst 0 0 ((a85Digits N).take 3 ++ rest) = a85DecLoop cap ndst (N / 7225) 3 rest := by
  show a85DecLoop cap ndst 0 0 ((a85Digits N).take 2 ++ _ :: rest) = _
  rw [a85_two hN hc, a85_digit N 7225 rfl hN hc (by decide)]

theorem a85_four {cap ndst N : Nat} {rest : List Nat} (hN : N < 4294967296) (hc : ndst + 4 ≤ cap) :
    a85DecLoop cap ndst 0 0 ((a85Digits N).take 4 ++ rest) = a85DecLoop cap ndst (N / 85) 4 rest := by
  show a85DecLoop cap ndst 0 0 ((a85Digits N).take 3 ++ _ :: rest) = _
  rw [a85_three hN hc, a85_digit N 85 rfl hN hc (by decide)]

theorem be32_lt {a b c d : Nat} (ha : a < 256) (hb : b < 256) (hc : c < 256) (hd : d < 256) :
    be32 a b c d < 4294967296 := by unfold be32; omega

theorem be32Bytes_be32 {a b c d : Nat} (ha : a < 256) (hb : b < 256) (hc : c < 256) (hd : d < 256) :
    be32Bytes (be32 a b c d) = [a, b, c, d] := by
  unfold be32Bytes be32
  simp only [List.cons.injEq, and_true]
  omega

theorem a85_group {cap ndst a b c d : Nat} {rest : List Nat} (ha : a < 256) (hb : b < 256)
    (hc' : c < 256) (hd : d < 256) (hc : ndst + 4 ≤ cap) :
    a85DecLoop cap ndst 0 0 (a85Digits (be32 a b c d) ++ rest)
      = (a85DecLoop cap (ndst + 4) 0 0 rest).map ([a, b, c, d] ++ ·) := by
  have hN := be32_lt ha hb hc' hd
  rw [← be32Bytes_be32 ha hb hc' hd]
  generalize be32 a b c d = N at hN
  show a85DecLoop cap ndst 0 0 ((a85Digits N).take 4 ++ _ :: rest) = _
  rw [a85_four hN hc, a85_digit5 hN hc]

/-- flushing a short group: the missing digits are taken as 84s, `P - 1` in all.  That rounds `N` up by less than
    `P ≤ B`, which leaves the bytes above the `B` place alone when those below are zero. -/
theorem a85_flush (N P B : Nat) (hP : 0 < P) (hPB : P ≤ B) (hB : N + B ≤ 4294967296) :
    ∃ r, r < B ∧ (N / P * P + (P - 1)) % 4294967296 = N + r := by
  have hdm := Nat.div_add_mod N P
  have hr := Nat.mod_lt N hP
  rw [Nat.mul_comm (N / P)]
  generalize P * (N / P) = M at *   -- `N` rounded down to a multiple of `P`: `M + N % P = N`
  exact ⟨M + (P - 1) - N, by omega, by rw [Nat.mod_eq_of_lt (by omega)]; omega⟩

/- end of input after two, three, four digits of a group (not by `rfl`: with `v` a variable that multiplies by the
   literal in unary) -/
theorem a85_nil2 (cap ndst v : Nat) :
    a85DecLoop cap ndst v 2 [] = some ((be32Bytes ((v * 614125 + 614124) % 4294967296)).take 1) := by
  conv => lhs; unfold a85DecLoop
  simp
theorem a85_nil3 (cap ndst v : Nat) :
    a85DecLoop cap ndst v 3 [] = some ((be32Bytes ((v * 7225 + 7224) % 4294967296)).take 2) := by
  conv => lhs; unfold a85DecLoop
  simp
theorem a85_nil4 (cap ndst v : Nat) :
    a85DecLoop cap ndst v 4 [] = some ((be32Bytes ((v * 85 + 84) % 4294967296)).take 3) := by
  conv => lhs; unfold a85DecLoop
  simp

theorem a85_tail1 {cap ndst a : Nat} (ha : a < 256) (hc : ndst + 4 ≤ cap) :
    a85DecLoop cap ndst 0 0 ((a85Digits (be32 a 0 0 0)).take 2) = some [a] := by
  obtain ⟨r, hr, hV⟩ := a85_flush (be32 a 0 0 0) 614125 16777216 (by decide) (by decide) (by unfold be32; omega)
  rw [← List.append_nil (List.take 2 _), a85_two (be32_lt ha (by decide) (by decide) (by decide)) hc, a85_nil2, hV,
    be32Bytes, List.take_succ_cons, List.take_zero, show (be32 a 0 0 0 + r) / 16777216 % 256 = a by unfold be32; omega]

theorem a85_tail2 {cap ndst a b : Nat} (ha : a < 256) (hb : b < 256) (hc : ndst + 4 ≤ cap) :
    a85DecLoop cap ndst 0 0 ((a85Digits (be32 a b 0 0)).take 3) = some [a, b] := by
  obtain ⟨r, hr, hV⟩ := a85_flush (be32 a b 0 0) 7225 65536 (by decide) (by decide) (by unfold be32; omega)
  -- the flushed value has `a`, `b` on top: its bytes are these and two others
  rw [← List.append_nil (List.take 3 _), a85_three (be32_lt ha hb (by decide) (by decide)) hc, a85_nil3, hV,
    show be32 a b 0 0 + r = be32 a b (r / 256) (r % 256) by unfold be32; omega,
    be32Bytes_be32 ha hb (by omega) (by omega)]
  rfl

theorem a85_tail3 {cap ndst a b c : Nat} (ha : a < 256) (hb : b < 256) (hc' : c < 256) (hc : ndst + 4 ≤ cap) :
    a85DecLoop cap ndst 0 0 ((a85Digits (be32 a b c 0)).take 4) = some [a, b, c] := by
  obtain ⟨r, hr, hV⟩ := a85_flush (be32 a b c 0) 85 256 (by decide) (by decide) (by unfold be32; omega)
  rw [← List.append_nil (List.take 4 _), a85_four (be32_lt ha hb hc' (by decide)) hc, a85_nil4, hV,
    show be32 a b c 0 + r = be32 a b c r by unfold be32; omega, be32Bytes_be32 ha hb hc' hr]
  rfl

theorem a85Digits_length (v : Nat) : (a85Digits v).length = 5 := rfl

/-- for every buffer with 4 bytes per character, which is what `b85Dec` allots (`Gen.b85DecodeBufFactor`) -/
theorem a85_roundtrip (bs : List Nat) (hb : Bytes bs) (cap ndst : Nat) (h : ndst + 4 * (a85Enc bs).length ≤ cap) :
    a85DecLoop cap ndst 0 0 (a85Enc bs) = some bs := by
  induction bs using a85Enc.induct generalizing ndst with
  | case1 => rfl
  | case2 a =>
    simp only [a85Enc, List.length_take, a85Digits_length] at h ⊢
    exact a85_tail1 hb.head (by omega)
  | case3 a b =>
    simp only [a85Enc, List.length_take, a85Digits_length] at h ⊢
    exact a85_tail2 hb.head hb.tail.head (by omega)
  | case4 a b c =>
    simp only [a85Enc, List.length_take, a85Digits_length] at h ⊢
    exact a85_tail3 hb.head hb.tail.head hb.tail.tail.head (by omega)
  | case5 a b c d rest hz ih =>
    simp only [a85Enc, hz, if_true, List.length_cons] at h ⊢
    rw [a85_z (by simpa using hz) (by omega), ih hb.tail.tail.tail.tail (ndst + 4) (by omega)]
    rfl
  | case6 a b c d rest hz ih =>
    simp only [a85Enc, hz, Bool.false_eq_true, if_false, List.length_append, a85Digits_length] at h ⊢
    rw [a85_group hb.head hb.tail.head hb.tail.tail.head hb.tail.tail.tail.head (by omega),
      ih hb.tail.tail.tail.tail (ndst + 4) (by omega)]
    rfl

/-! ### Base85 = ascii85 under a substitution that `b85Dec` undoes on every character ascii85 emits (`a85Char`) -/

def a85Char (c : Nat) : Bool := (33 ≤ c && c ≤ 117) || c == 122

theorem a85Digits_chars (v : Nat) : ∀ c ∈ a85Digits v, a85Char c = true := by
  intro c hc
  simp only [a85Digits, List.mem_cons, List.not_mem_nil, or_false] at hc
  have : 33 ≤ c ∧ c ≤ 117 := by omega
  simp [a85Char, this.1, this.2]

theorem a85Enc_chars (bs : List Nat) : ∀ c ∈ a85Enc bs, a85Char c = true := by
  induction bs using a85Enc.induct with
  | case1 => nofun
  | case2 | case3 | case4 => exact fun c hc => a85Digits_chars _ c (List.mem_of_mem_take hc)
  | case5 a b c d rest hz ih => rw [a85Enc, if_pos hz]; exact List.forall_mem_cons.2 ⟨rfl, ih⟩
  | case6 a b c d rest hz ih => rw [a85Enc, if_neg hz]; exact List.forall_mem_append.2 ⟨a85Digits_chars _, ih⟩

theorem a85Enc_length (bs : List Nat) : (a85Enc bs).length ≤ (5 * bs.length + 3) / 4 := by
  induction bs using a85Enc.induct with
  | case1 | case2 | case3 | case4 => simp [a85Enc, a85Digits_length]
  | case5 a b c d rest hz ih =>
    simp only [a85Enc, hz, if_true, List.length_cons]; omega
  | case6 a b c d rest hz ih =>
    simp only [a85Enc, hz, Bool.false_eq_true, if_false, List.length_append, a85Digits_length,
      List.length_cons]; omega

/-- the repaired `Base85Encoder.Encode` returns what ascii85 reported, substituted -/
theorem b85Enc_eq (h1 : Gen.b85EncodeReturnsCount = true) (bs : List Nat) :
    b85Enc bs = (a85Enc bs).map (substOf Gen.b85EncSubst) := by
  simp only [b85Enc, h1, if_true]

theorem b85_roundtrip (h1 : Gen.b85EncodeReturnsCount = true) (h4 : Gen.b85DecodeBufFactor = 4)
    (hs : ∀ c, a85Char c = true → substOf Gen.b85DecSubst (substOf Gen.b85EncSubst c) = c)
    (bs : List Nat) (hb : Bytes bs) : b85Dec (b85Enc bs) = some bs := by
  have : List.map (substOf Gen.b85DecSubst ∘ substOf Gen.b85EncSubst) (a85Enc bs) = a85Enc bs := by
    conv => rhs; rw [← List.map_id (a85Enc bs)]
    exact List.map_congr_left fun c hc => hs c (a85Enc_chars bs c hc)
  rw [b85Enc_eq h1, b85Dec, List.map_map, this, h4]
  exact a85_roundtrip bs hb _ _ (by omega)

/-! ### basE91: the encoder step, digit range and length (invariant: `q < 2^nb`, `nb ≤ 13` at every loop head).
    8192 = 2^13 and 16384 = 2^14 are the two widths of a pair, 8281 = 91² bounds its value. -/

theorem b91_enc_cons (q nb x : Nat) (rest : List Nat) :
    b91EncLoop q nb (x :: rest) =
      if nb + 8 > 13 then
        if (q + x * 2 ^ nb) % 8192 > 88 then
          ((q + x * 2 ^ nb) % 8192 % 91) :: ((q + x * 2 ^ nb) % 8192 / 91) :: b91EncLoop ((q + x * 2 ^ nb) / 8192) (nb + 8 - 13) rest
        else
          ((q + x * 2 ^ nb) % 16384 % 91) :: ((q + x * 2 ^ nb) % 16384 / 91) :: b91EncLoop ((q + x * 2 ^ nb) / 16384) (nb + 8 - 14) rest
      else b91EncLoop (q + x * 2 ^ nb) (nb + 8) rest := by
  conv => lhs; unfold b91EncLoop

/-- basE91 sends 13 queued bits when they make a value above 88, else 14 -/
def b91Width (q : Nat) : Nat := if q % 8192 > 88 then 13 else 14

theorem b91Width_cases (q : Nat) : b91Width q = 13 ∨ b91Width q = 14 := by
  unfold b91Width; split <;> simp

/-- the pair sent is below 91², so both its digits are below 91 -/
theorem b91_pair_lt (q : Nat) : q % 2 ^ b91Width q < 8281 := by
  unfold b91Width; split <;> omega

/-- … and the decoder reads the width off the pair -/
theorem b91Width_pair (q : Nat) : b91Width (q % 2 ^ b91Width q) = b91Width q := by
  unfold b91Width
  split
  · rw [if_pos (by rwa [Nat.mod_mod])]
  · rw [if_neg (by rwa [Nat.mod_mod_of_dvd _ (by decide : 8192 ∣ 2 ^ 14)])]

/-- one input byte: push it on the queue `Q`; with more than 13 bits queued send the low `w` as a pair -/
theorem b91EncLoop_cons (q nb x : Nat) (rest : List Nat) {Q w : Nat} (hQ : Q = q + x * 2 ^ nb) (hw : w = b91Width Q) :
    b91EncLoop q nb (x :: rest) =
      if nb + 8 > 13 then Q % 2 ^ w % 91 :: Q % 2 ^ w / 91 :: b91EncLoop (Q / 2 ^ w) (nb + 8 - w) rest
      else b91EncLoop Q (nb + 8) rest := by
  subst hQ hw
  rw [b91_enc_cons, b91Width]
  split
  · split <;> rfl
  · rfl

theorem b91_digits_lt (bs : List Nat) (hb : Bytes bs) (q nb : Nat) (hq : q < 2 ^ nb) (hnb : nb ≤ 13) :
    ∀ d ∈ b91EncLoop q nb bs, d < 91 := by
  induction bs generalizing q nb with
  | nil =>
    have : q < 8192 := Nat.lt_of_lt_of_le hq (Nat.pow_le_pow_right (by omega) hnb)
    rw [b91EncLoop]
    split
    · split
      · exact List.forall_mem_cons.2 ⟨by omega, List.forall_mem_cons.2 ⟨by omega, nofun⟩⟩
      · exact List.forall_mem_cons.2 ⟨by omega, nofun⟩
    · nofun
  | cons x rest ih =>
    have hQ : q + x * 2 ^ nb < 2 ^ (nb + 8) := stack_lt hq hb.head
    rw [b91EncLoop_cons q nb x rest rfl rfl]
    have hp := b91_pair_lt (q + x * 2 ^ nb)
    have hw := b91Width_cases (q + x * 2 ^ nb)
    generalize b91Width (q + x * 2 ^ nb) = w at *
    split
    · exact List.forall_mem_cons.2 ⟨by omega, List.forall_mem_cons.2 ⟨by omega,
        ih hb.tail _ (nb + 8 - w) (div_lt_pow _ _ w (by rwa [Nat.sub_add_cancel (by omega)])) (by omega)⟩⟩
    · exact ih hb.tail _ (nb + 8) hQ (by omega)
theorem b91_length (bs : List Nat) (q nb : Nat) :
    13 * (b91EncLoop q nb bs).length ≤ 2 * (nb + 8 * bs.length) + 26 := by
  induction bs generalizing q nb with
  | nil =>
    rw [b91EncLoop]
    split
    · split <;> simp
    · simp
  | cons x rest ih =>
    rw [b91EncLoop_cons q nb x rest rfl rfl]
    have hw := b91Width_cases (q + x * 2 ^ nb)
    generalize b91Width (q + x * 2 ^ nb) = w at *
    split
    · have := ih ((q + x * 2 ^ nb) / 2 ^ w) (nb + 8 - w)
      simp only [List.length_cons]; omega
    · have := ih (q + x * 2 ^ nb) (nb + 8)
      simp only [List.length_cons]; omega

/-- basE91: two characters per 13 (or 14) bits, at most two for the rest -/
theorem b91Enc_length (bs : List Nat) : 13 * (b91Enc bs).length ≤ 16 * bs.length + 26 := by
  have := b91_length bs 0 0
  rw [b91Enc, List.length_map]
  omega

/-! ### basE91 round trip: the decoder simulated on the encoder's output.
    Encoder and decoder each hold a few pending bits (`q`, `nb ≤ 13` and `dq`, `dn ≤ 7`); stacked, `dq + q·2^dn`,
    they are the whole bytes in flight, which the decoder writes low byte first (`bytesLE`). -/

theorem pow256 (a : Nat) : 256 ^ a = 2 ^ (8 * a) := by rw [show (256 : Nat) = 2 ^ 8 from rfl, ← Nat.pow_mul]

theorem pow_bytes (a r : Nat) : 2 ^ r * 256 ^ a = 2 ^ (r + 8 * a) := by rw [pow256, ← Nat.pow_add]

/-- the low `a` bytes of `lo`, then `b` bytes of what is above them, are the low `a + b` bytes of the whole -/
theorem bytesLE_glue (a b lo hi : Nat) :
    bytesLE a lo ++ bytesLE b (lo / 256 ^ a + hi) = bytesLE (a + b) (lo + hi * 256 ^ a) := by
  induction a generalizing lo with
  | zero => simp [bytesLE]
  | succ a ih =>
    rw [show a + 1 + b = (a + b) + 1 by omega, bytesLE, bytesLE, Nat.pow_succ, ← Nat.mul_assoc,
      Nat.add_mul_mod_self_right, Nat.add_mul_div_right _ _ (by decide : 0 < 256), ← ih,
      Nat.div_div_eq_div_mul, Nat.mul_comm 256]
    rfl

theorem bytesLE_snoc {m W x : Nat} (hW : W < 256 ^ m) (hx : x < 256) :
    bytesLE (m + 1) (W + x * 256 ^ m) = bytesLE m W ++ [x] := by
  rw [← bytesLE_glue, Nat.div_eq_of_lt hW, Nat.zero_add, bytesLE, bytesLE, Nat.mod_eq_of_lt hx]

theorem b91_dec_pair (dq dn a : Nat) (rest : List Nat) :
    b91DecLoop dq dn none ((a % 91) :: (a / 91) :: rest)
      = bytesLE ((dn + b91Width a) / 8) (dq + a * 2 ^ dn)
        ++ b91DecLoop ((dq + a * 2 ^ dn) / 256 ^ ((dn + b91Width a) / 8)) ((dn + b91Width a) % 8) none rest := by
  simp only [b91DecLoop, b91Width, Nat.mod_add_div']

/-- from any encoder state (`q`, `nb`) and decoder state (`dq`, `dn`) with `m` whole bytes in flight, the decoder run on
    what the encoder emits for `rest` writes those `m` bytes and then `rest` -/
def B91Sim (rest : List Nat) : Prop :=
  ∀ q nb dq dn m, q < 2 ^ nb → nb ≤ 13 → dq < 2 ^ dn → dn ≤ 7 → dn + nb = 8 * m →
    b91DecLoop dq dn none (b91EncLoop q nb rest) = bytesLE m (dq + q * 2 ^ dn) ++ rest

/-- the encoder sends the low `w` bits of its `n` queued bits as a digit pair and goes on with the rest; the
    decoder recognises `w` from the pair, and the bytes in flight are the same before and after -/
theorem b91_emit {w q n dq dn m : Nat} {rest : List Nat} (ih : B91Sim rest)
    (hw : b91Width (q % 2 ^ w) = w) (hq : q < 2 ^ n) (hwn : w ≤ n) (hn : n - w ≤ 13)
    (hdq : dq < 2 ^ dn) (hm : dn + n = 8 * m) :
    b91DecLoop dq dn none (q % 2 ^ w % 91 :: q % 2 ^ w / 91 :: b91EncLoop (q / 2 ^ w) (n - w) rest)
      = bytesLE m (dq + q * 2 ^ dn) ++ rest := by
  rw [b91_dec_pair, hw]
  -- the decoder now holds `dn + w = 8a + r` bits: it writes `a` bytes and keeps `r` bits
  have hd := Nat.div_add_mod (dn + w) 8
  have hr := Nat.mod_lt (dn + w) (by decide : 8 > 0)
  generalize (dn + w) / 8 = a, (dn + w) % 8 = r at hd hr ⊢
  have hlo : dq + q % 2 ^ w * 2 ^ dn < 256 ^ a * 2 ^ r := by
    rw [Nat.mul_comm (256 ^ a), pow_bytes, show r + 8 * a = dn + w by omega]
    exact stack_lt hdq (Nat.mod_lt _ (Nat.pow_pos (by decide)))
  -- the pair sent and the bits kept make up the queue: the bytes in flight are the same number as before
  have hq2 : q % 2 ^ w + q / 2 ^ w * 2 ^ w = q := Nat.mod_add_div' q _
  have hval : dq + q % 2 ^ w * 2 ^ dn + q / 2 ^ w * 2 ^ r * 256 ^ a = dq + q * 2 ^ dn := by
    rw [Nat.mul_assoc, pow_bytes, show r + 8 * a = w + dn by omega, Nat.pow_add, ← Nat.mul_assoc, Nat.add_assoc,
      ← Nat.add_mul, hq2]
  rw [ih _ _ _ _ (m - a) (div_lt_pow q (n - w) w (by rwa [Nat.sub_add_cancel hwn])) hn
      (Nat.div_lt_of_lt_mul hlo) (by omega) (by omega),
    ← List.append_assoc, bytesLE_glue, hval, show a + (m - a) = m by omega]

theorem b91_sim_cons {x : Nat} {rest : List Nat} (hx : x < 256) (ih : B91Sim rest) : B91Sim (x :: rest) := by
  intro q nb dq dn m hq hnb hdq hdn hm
  have hq' : q + x * 2 ^ nb < 2 ^ (nb + 8) := stack_lt hq hx
  -- pushing `x` onto the encoder's queue appends it to the bytes in flight
  have hpush : bytesLE m (dq + q * 2 ^ dn) ++ x :: rest
      = bytesLE (m + 1) (dq + (q + x * 2 ^ nb) * 2 ^ dn) ++ rest := by
    have hW : dq + q * 2 ^ dn < 256 ^ m := by
      have := stack_lt hdq hq
      rwa [hm, ← pow256] at this
    rw [Nat.add_mul, ← Nat.add_assoc, Nat.mul_assoc, ← Nat.pow_add, Nat.add_comm nb, hm, ← pow256,
      bytesLE_snoc hW hx, List.append_assoc]
    rfl
  have hw := b91Width_cases (q + x * 2 ^ nb)
  rw [hpush, b91EncLoop_cons q nb x rest rfl rfl]
  split
  · exact b91_emit ih (b91Width_pair _) hq' (by omega) (by omega) hdq (by omega)
  · exact ih _ _ _ _ _ hq' (by omega) hdq hdn (by omega)

/-- one input byte for one concrete pair (dn, nb) of pending bit counts, by evaluation; not called: `b91_sim_cons` takes
    the pair symbolically -/
macro "b91_step" ih:ident : tactic => `(tactic| (
  rw [b91_enc_cons]
  simp only [Nat.reduceAdd, Nat.reduceSub, Nat.reducePow, Nat.reduceDiv, gt_iff_lt, Nat.reduceLT,
    ↓reduceIte] at *
  first
  | (rw [$ih _ _ _ _ (by simp only [Nat.reducePow]; omega) (by omega) (by simp only [Nat.reducePow]; omega)
        (by omega) (by omega)]
     simp only [Nat.reduceAdd, Nat.reducePow, Nat.reduceDiv, bytesLE, List.cons_append,
       List.nil_append, List.cons.injEq, and_true]
     omega)
  | (split
     · rename_i h
       rw [b91_dec_pair, Nat.mod_mod, if_pos h]
       simp only [Nat.reduceAdd, Nat.reducePow, Nat.reduceDiv, Nat.reduceMod]
       rw [$ih _ _ _ _ (by simp only [Nat.reducePow]; omega) (by omega) (by simp only [Nat.reducePow]; omega)
         (by omega) (by omega)]
       simp only [Nat.reduceAdd, Nat.reducePow, Nat.reduceDiv, Nat.reduceMod, bytesLE, List.cons_append,
         List.nil_append, List.cons.injEq, and_true]
       omega
     · rename_i h
       rw [b91_dec_pair, Nat.mod_mod_of_dvd _ (by decide : 8192 ∣ 16384), if_neg h]
       simp only [Nat.reduceAdd, Nat.reducePow, Nat.reduceDiv, Nat.reduceMod]
       rw [$ih _ _ _ _ (by simp only [Nat.reducePow]; omega) (by omega) (by simp only [Nat.reducePow]; omega)
         (by omega) (by omega)]
       simp only [Nat.reduceAdd, Nat.reducePow, Nat.reduceDiv, Nat.reduceMod, bytesLE, List.cons_append,
         List.nil_append, List.cons.injEq, and_true]
       omega)))

/-- end of input: the encoder flushes its `nb` bits as one digit (`q ≤ 90`, at most 7 bits) or as a pair -/
theorem b91_sim_nil : B91Sim [] := by
  intro q nb dq dn m hq hnb hdq hdn hm
  -- a pair is sent only with at least 7 bits queued: the 13 or 14 bits the decoder takes it for end in the same byte
  have h6 : nb ≤ 6 → q < 64 := fun h => Nat.lt_of_lt_of_le hq (Nat.pow_le_pow_right (by decide) h)
  rw [List.append_nil, b91EncLoop]
  split
  · split
    · have hbytes : (dn + b91Width q) / 8 = m := by have := b91Width_cases q; omega
      rw [b91_dec_pair, b91DecLoop, List.append_nil, hbytes]
    · rw [show m = 1 by omega, Nat.mod_eq_of_lt (by omega : q < 91)]
      rfl
  · rw [show m = 0 by omega]
    rfl

theorem b91_sim (bs : List Nat) (hb : Bytes bs) : B91Sim bs := by
  induction bs with
  | nil => exact b91_sim_nil
  | cons x rest ih => exact b91_sim_cons hb.head (ih hb.tail)

theorem b91_roundtrip (g : GoodAlpha Gen.cb91 91) (bs : List Nat) (hb : Bytes bs) :
    b91Dec (b91Enc bs) = some bs := by
  have hlt := b91_digits_lt bs hb 0 0 (by decide) (by decide)
  unfold b91Dec b91Enc
  rw [g.all_idx_map hlt, g.filterMap_idx_map hlt]
  have := b91_sim bs hb 0 0 0 0 0 (by decide) (by decide) (by decide) (by decide) rfl
  simpa [bytesLE] using this

/-! ### Base192 (as written): its length only; round trip and alphabet confinement fail (`C08_witness_b192`) -/

theorem b192EncStep_out_length (wb buf val : Nat) : (b192EncStep wb buf val).1.length = 2 := rfl

/-- two characters per input pair, an odd last byte included, and at most one to flush -/
theorem b192EncLoop_length (wb buf : Nat) (last : Bool) (bs : List Nat) :
    (b192EncLoop wb buf last bs).length ≤ bs.length + (if bs = [] then 1 else 2) := by
  fun_induction b192EncLoop wb buf last bs with
  | case1 | case2 | case3 => simp
  | case4 wb buf last a r ih =>
    have : r.1.length = 2 := b192EncStep_out_length ..
    simp only [List.length_append, this, List.length_cons, List.length_nil, if_true, List.cons_ne_nil, if_false] at ih ⊢
    omega
  | case5 wb buf last a b rest r ih =>
    have : r.1.length = 2 := b192EncStep_out_length ..
    simp only [List.length_append, this, List.length_cons] at ih ⊢
    split at ih <;> simp <;> omega

theorem b192Enc_length (bs : List Nat) : (b192Enc bs).length ≤ bs.length + 2 :=
  Nat.le_trans (b192EncLoop_length 1 0 false bs) (by split <;> omega)

end SA.Codec
