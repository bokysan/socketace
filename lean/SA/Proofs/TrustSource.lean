/-
  SA.Proofs.TrustSource — the getters of cert.Config when a configured file cannot be read: with every read error
  propagated `degrade` changes nothing, and then none of the three GetTlsConfig yields a configuration.
-/
import SA.Model.TrustSource
import SA.Proofs.TlsConfig
namespace SA.TrustSource
open SA.TlsConfig

theorem degrade_all (o : Opts) : degrade ⟨true, true, true⟩ o = o := by
  simp [degrade, degradeSrc]

/-- Config.GetTlsConfig reads all three sources, so whichever of them is unreadable ends it -/
theorem config_unreadable {o : Opts} (h : unreadable o = true) (c : TlsCfg) : configGetTlsConfig o ≠ .ok c := by
  intro hc
  obtain ⟨crt, b, hk, hb, -⟩ := config_eq hc
  simp only [unreadable, Bool.or_eq_true, beq_iff_eq] at h
  unfold getX509KeyPair at hk
  rcases h with (h | h) | h
  · -- the certificate
    simp [readSrc_unreadable .certfile h] at hk
  · -- the key
    have hp : getPrivateKey o = .err .keyfile := by simp [getPrivateKey, readSrc_unreadable .keyfile h]
    cases hcert : readSrc o.cert .certfile <;> simp [hcert, hp] at hk
  · -- the CA
    rw [readSrc_unreadable .cafile h] at hb; cases hb

theorem client_unreadable {o : Opts} (h : unreadable o = true) (c : TlsCfg) : clientGetTlsConfig o ≠ .ok c :=
  fun hc => (clientGetTlsConfig_ok_iff.mp hc).elim fun c0 h0 => config_unreadable h c0 h0.1

theorem server_unreadable {o : Opts} (h : unreadable o = true) (g : Bool) (c : TlsCfg) : serverGetTlsConfig g o ≠ .ok c :=
  fun hc => (serverGetTlsConfig_ok_iff.mp hc).elim fun c0 h0 => config_unreadable h c0 h0.1

end SA.TrustSource
