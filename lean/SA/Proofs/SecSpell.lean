/-
  SA.Proofs.SecSpell — the cell functions of the spelling sweep (SA.Model.SecSpell) and of the front-end sweep
  (SA.Model.SecFront) taken apart once: which branches end without a session, and the one that reaches the handshake cell.
-/
import SA.Model.SecFront
namespace SA.Security
open SA.Handshake SA.Schemes

/-- the cell of a spelling the parser accepts: no server, refused, or the handshake cell of a Connect that did not fail -/
theorem cellSpellAcc_cases {s : Str} {ctor : String} (h : lookup (tableOf .upstream) s = some ctor)
    (stls scert must acc : Bool) :
    cellSpellAcc s stls scert must acc = .noserver ∨ cellSpellAcc s stls scert must acc = .refused ∨
    ((runOf .upstream ctor s).failed = false ∧
      cellSpellAcc s stls scert must acc =
        cellCore2 (ctor == "Packet" || ctor == "Dns") (ctor == "InputOutput") (runOf .upstream ctor s).tls
          (spellArg ctor (runOf .upstream ctor s) must) stls scert must acc) := by
  unfold cellSpellAcc
  rw [h]
  dsimp only
  split
  · exact .inl rfl              -- a TLS server without a certificate does not start
  split
  · exact .inl rfl              -- a datagram carrier against a TLS server
  split
  · exact .inr (.inl rfl)       -- the Connect fails outright, or the rig cannot reach the server
  · rename_i hf
    simp only [Bool.or_eq_true, not_or, Bool.not_eq_true] at hf
    exact .inr (.inr ⟨hf.1, rfl⟩)

/-- the `inject` cell of a spelling the parser accepts: no server, refused, or the handshake cell of a plain websocket
    dial to the plain server, whose `secure` argument is `flag "http" false`.  The cell is written with the flags
    `cellSpellAcc` computes for the constructor (`false`, `false`, `false` for this dial), so that the two sweeps meet in
    one cell -/
theorem cellFrontWith2_inject_cases {s : Str} {ctor : String} (h : lookup (tableOf .upstream) s = some ctor)
    (follows : String → Bool) (flag : String → Bool → Bool) (stls scert must insecure ca : Bool) :
    cellFrontWith2 follows flag s .inject stls scert must insecure ca = .noserver ∨
    cellFrontWith2 follows flag s .inject stls scert must insecure ca = .refused ∨
    (stls = false ∧ (runOf .upstream ctor s).failed = false ∧
      cellFrontWith2 follows flag s .inject stls scert must insecure ca =
        cellCoreSrv (ctor == "Packet" || ctor == "Dns") (ctor == "InputOutput") (runOf .upstream ctor s).tls
          (spellArg ctor (runOf .upstream ctor s) must) (flag "http" false) false scert must
          (insecure || (ca && hostOnCert2 ctor s))) := by
  unfold cellFrontWith2
  rw [h]
  dsimp only
  split
  · exact .inl rfl              -- not a kind the front-end speaks to
  split
  · exact .inl rfl              -- not a plain websocket dial to the plain server
  split
  · exact .inr (.inl rfl)       -- the Connect fails outright
  · rename_i hplain hfail
    simp only [Bool.or_eq_true, bne_iff_ne, ne_eq, not_or, Decidable.not_not, Bool.not_eq_true] at hplain hfail
    obtain ⟨⟨rfl, ht⟩, hs⟩ := hplain
    rw [ht]
    exact .inr (.inr ⟨hs, hfail, rfl⟩)

/-- a server whose `secure` argument says what its carrier is: the cell of the spelling sweep -/
theorem cellCoreSrv_eq : ∀ d n dt s0 stls scert must acc : Bool,
    cellCoreSrv d n dt s0 stls stls scert must acc = cellCore2 d n dt s0 stls scert must acc := by
  intro d n dt s0 stls scert must acc
  -- the same body, whatever the pair is; the two `match`es are different constants until they meet constructors
  simp only [cellCoreSrv, cellCore2]
  generalize honestPair _ _ _ = p
  cases p.client <;> cases p.server <;> rfl

end SA.Security
