/-
  The buffered reader of SA.Model.ReadAhead (C17, C01): `take` moves bytes from the front of what the wrapper still holds
  (`BR.remaining`) to the caller and loses none, however the stream is chunked; so a handler that goes on reading
  through the wrapper sees exactly the rest of the stream.
-/
import SA.Model.ReadAhead
namespace SA.ReadAhead

theorem take_remaining (k : Nat) (s : BR) : (take k s).1 ++ (take k s).2.remaining = s.remaining := by
  fun_induction take k s with
  | case1 s => simp
  | case2 k b buf rest r ih =>
      simp only [BR.remaining] at ih ⊢
      simp only [List.cons_append]
      rw [ih]
  | case3 k c rest ih =>
      rw [ih]; simp [BR.remaining]
  | case4 k => simp [BR.remaining]

theorem take_viaWrapper (k : Nat) (cs : List (List Nat)) :
    (take k (BR.ofChunks cs)).1 ++ viaWrapper k cs = cs.flatten :=
  -- a fresh reader holds nothing: what remains of `ofChunks cs` is `[] ++ cs.flatten`
  take_remaining k (BR.ofChunks cs)

theorem take_length (k : Nat) (s : BR) (h : k ≤ s.remaining.length) : (take k s).1.length = k := by
  fun_induction take k s with
  | case1 s => simp
  | case2 k b buf rest r ih =>
      simp only [BR.remaining, List.length_cons, List.length_append] at h ih ⊢
      have : r.1.length = k := ih (by omega)
      omega
  | case3 k c rest ih =>
      apply ih; simpa [BR.remaining] using h
  | case4 k => simp [BR.remaining] at h

end SA.ReadAhead
