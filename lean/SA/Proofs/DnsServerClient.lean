/-
  SA.Proofs.DnsServerClient — the client's answer decoder cannot panic (C12 client half).
-/
import SA.Model.DnsServerClient
import SA.Proofs.DnsDecode

namespace SA.DnsClient
open SA.Go SA.Go.Res SA.DnsServer

theorem le16At_no_panic {d : List Nat} (h : 2 ≤ d.length) : ∃ n, le16At d = ok n := by
  have h2 : ((d.take 2).drop 0).length = 2 := by simp; omega
  simp (disch := omega) only [le16At, slice_ok, idx_ok, Res.bind_ok]
  exact ⟨_, rfl⟩

/-- `if len(d) >= k { d = d[k:] }` (NULL, PRIVATE, TXT, AAAA, A) -/
theorem sliceFrom_guarded (d : List Nat) (k : Nat) : ∃ x, (if d.length ≥ k then sliceFrom d k else pure []) = ok x := by
  split
  · next h => exact ⟨_, sliceFrom_ok h⟩
  · exact ⟨_, rfl⟩

/-- `if len(n) >= len(domain)+2 { n[0 : len(n)-len(domain)-2] }` (MX, SRV) -/
theorem name_guarded (dl : Nat) (n : List Nat) :
    ∃ x, (if n.length ≥ dl + 2 then do pure (undotify (← slice n 0 (n.length - dl - 2))) else pure []) = ok x := by
  split
  · rw [slice_ok (Nat.zero_le _) (by omega)]; exact ⟨_, rfl⟩
  · exact ⟨_, rfl⟩

theorem recordData_no_panic (dl : Nat) : ∀ rr : RR, ∃ d, recordData dl rr = ok d
  | .null d | .priv d | .aaaa d | .a d => sliceFrom_guarded d _
  | .txt ss => sliceFrom_guarded (unescPres false ss.flatten) 2
  | .mx _ n | .srv _ n => name_guarded dl n
  | .other => ⟨_, rfl⟩
  | .cname t => by
    simp only [recordData]
    split
    · rw [sliceFrom_ok (by omega)]
      simp only [Res.bind_ok]
      rw [slice_ok (Nat.zero_le _) (by omega)]; exact ⟨_, rfl⟩
    · exact ⟨_, rfl⟩

/-- `if len(d) < 2 { 90000 } else { base + le16(d[0:2]) }` (NULL, PRIVATE, AAAA) -/
theorem le16_guarded (d : List Nat) (base : Nat) :
    ∃ p, (if d.length < 2 then pure 90000 else do pure (base + (← le16At d)) : Res Nat) = ok p := by
  split
  · exact ⟨_, rfl⟩
  · next h => obtain ⟨n, hn⟩ := le16At_no_panic (d := d) (by omega); rw [hn]; exact ⟨_, rfl⟩

/-- `if len(t) < 2 { 90000 } else { f(t[0], t[1]) }` (TXT's first string, CNAME) -/
theorem idx2_guarded (t : List Nat) (f : Nat → Nat → Nat) :
    ∃ p, (if t.length < 2 then pure 90000 else do
      let c1 ← idx t 0
      let c2 ← idx t 1
      pure (f c1 c2) : Res Nat) = ok p := by
  split
  · exact ⟨_, rfl⟩
  · rw [idx_ok (by omega), idx_ok (by omega)]; exact ⟨_, rfl⟩

theorem typePriority_no_panic : ∀ rr : RR, ∃ p, typePriority rr = ok p
  | .null d | .priv d | .aaaa d => le16_guarded d _
  | .mx _ _ | .srv _ _ | .other => ⟨_, rfl⟩
  | .cname t => idx2_guarded t _
  | .txt [] => ⟨_, rfl⟩
  | .txt (s0 :: _) => idx2_guarded s0 _
  | .a d => by
    simp only [typePriority]
    split
    · exact ⟨_, rfl⟩
    · rw [idx_ok (by omega)]; exact ⟨_, rfl⟩

theorem mapRes_no_panic {α β : Type} (f : α → Res β) (hf : ∀ x, ∃ y, f x = ok y) : ∀ xs : List α, ∃ ys, mapRes f xs = ok ys
  | [] => ⟨[], rfl⟩
  | x :: xs => by
    obtain ⟨y, hy⟩ := hf x
    obtain ⟨ys, hys⟩ := mapRes_no_panic f hf xs
    exact ⟨y :: ys, by simp [mapRes, hy, hys]⟩

theorem unwrap_no_panic (dl : Nat) (rrs : List RR) : ∃ d, unwrap dl rrs = ok d := by
  unfold unwrap
  by_cases h : rrs.length < 2
  · obtain ⟨parts, hp⟩ := mapRes_no_panic (recordData dl) (recordData_no_panic dl) rrs
    exact ⟨parts.flatten, by simp [h, hp]⟩
  · obtain ⟨ps, hps⟩ := mapRes_no_panic typePriority typePriority_no_panic rrs
    obtain ⟨parts, hp⟩ := mapRes_no_panic (recordData dl) (recordData_no_panic dl) ((sortByPrio (ps.zip rrs)).map (·.2))
    exact ⟨parts.flatten, by simp [h, hps, hp]⟩

/-- every branch is `decode` (total) followed by a pure parser, except 'v' and 'y', which slice after a length test -/
theorem decodeResponse_no_panic (cd : Codec) (hT : cd.Total) (code down : Nat) (data : List Nat) :
    ∃ r, decodeResponse cd code down data = ok r := by
  unfold decodeResponse
  simp only [Codec.decode_total hT, Res.bind_ok]
  by_cases h0 : data.length = 0
  · exact ⟨none, if_pos h0⟩
  rw [if_neg h0, sliceFrom_ok (Nat.pos_of_ne_zero h0)]
  refine Res.ite_no_panic ?_ (Res.ite_no_panic ⟨_, rfl⟩ (Res.ite_no_panic ⟨_, rfl⟩ (Res.ite_no_panic ⟨_, rfl⟩ (Res.ite_no_panic ?_
    (Res.ite_no_panic ⟨_, rfl⟩ (Res.ite_no_panic ⟨_, rfl⟩ ⟨_, rfl⟩))))))
  · by_cases hb : (data.drop 1).length < 2
    · exact ⟨none, if_pos hb⟩
    · rw [if_neg hb, slice_ok (Nat.zero_le _) (Nat.le_of_not_lt hb)]
      simp only [Res.bind_ok]
      split
      · exact ⟨none, rfl⟩
      · rw [sliceFrom_ok (Nat.le_of_not_lt hb)]; exact ⟨_, rfl⟩
  · by_cases hl : data.length > 1
    · rw [if_pos hl, idx_ok hl, sliceFrom_ok hl]
      exact Res.ite_no_panic ⟨_, rfl⟩ (Res.ite_no_panic ⟨_, rfl⟩ ⟨_, rfl⟩)
    · exact ⟨none, if_neg hl⟩

theorem decodeAnswer_no_panic (cd : Codec) (hT : cd.Total) (dl down : Nat) (rrs : List RR) : ∃ r, decodeAnswer cd dl down rrs = ok r := by
  unfold decodeAnswer
  obtain ⟨data, hd⟩ := unwrap_no_panic dl rrs
  rw [hd]
  simp only [Res.bind_ok]
  by_cases h0 : data.length = 0
  · exact ⟨none, by rw [if_pos h0]; rfl⟩
  · rw [if_neg h0]
    rw [findCmd_eq]
    simp only [Res.bind_ok]
    cases SA.Gen.commandTable.find? (fun c => ofType c.1 data) with
    | none => exact ⟨none, rfl⟩
    | some c =>
      obtain ⟨code, nu, hq, hr⟩ := c
      cases hr with
      | false => exact ⟨none, rfl⟩
      | true =>
        obtain ⟨r, hr⟩ := decodeResponse_no_panic cd hT code down data
        exact ⟨r, by simp [callField, hr]⟩

end SA.DnsClient
