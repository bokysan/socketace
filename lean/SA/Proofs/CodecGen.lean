/-
  SA.Proofs.CodecGen — the regenerated alphabets and repaired shapes meet the side conditions of SA.Proofs.Codec,
  and what each encoder emits is therefore confined to its alphabet (C08's alphabet theorems and C11's pattern
  coverage read off this) and, measured against the regenerated ratio, at most ratio·n + 2 characters long
  (`length_tight`, for C08's length bounds and C09's size budget).
-/
import SA.Proofs.Codec
namespace SA.Codec

/-! ## side conditions on the regenerated facts -/

theorem gen_cb32 : GoodAlpha Gen.cb32 32 := .of_check (by decide +kernel)
theorem gen_cb64 : GoodAlpha Gen.cb64 64 := .of_check (by decide +kernel)
theorem gen_cb64u : GoodAlpha Gen.cb64u 64 := .of_check (by decide +kernel)
theorem gen_cb91 : GoodAlpha Gen.cb91 91 := .of_check (by decide +kernel)
theorem gen_cb128 : GoodAlpha Gen.cb128 128 := .of_check (by decide +kernel)

/-- the characters ascii85 can emit are below 123, so a statement about all of them is one evaluation -/
theorem a85Char_forall {p : Nat → Prop} (h : ∀ c, c < 123 → a85Char c = true → p c) (c : Nat) (hc : a85Char c = true) :
    p c := by
  refine h c ?_ hc
  simp only [a85Char, Bool.or_eq_true, Bool.and_eq_true, decide_eq_true_eq, beq_iff_eq] at hc
  omega

/-- the Decode substitution undoes the Encode substitution on every character ascii85 can emit -/
theorem gen_subst85 : ∀ c, a85Char c = true → substOf Gen.b85DecSubst (substOf Gen.b85EncSubst c) = c :=
  a85Char_forall (by decide +kernel)
/-- … and the substituted characters are DNS-safe (this is what the substitution is for) -/
theorem gen_safe85 : ∀ c, a85Char c = true → dnsSafe (substOf Gen.b85EncSubst c) = true :=
  a85Char_forall (by decide +kernel)

/- three shapes of the code that the round trips of Base85 and Base128 depend on (what each says: SA/Gen/C08.lean) -/
theorem gen_b85_count : Gen.b85EncodeReturnsCount = true := rfl
theorem gen_b85_buf : Gen.b85DecodeBufFactor = 4 := rfl
theorem gen_b128_guard : Gen.b128TailGuarded = true := rfl

/-! ## what each encoder emits: the text of a digit string.  Alphabet confinement (here, and the pattern
    coverage of C11) and the lengths are read off these. -/

theorem encode_b128 (bs : List Nat) (hb : Bytes bs) :
    encode .b128 bs = (radixDigits 7 bs).map (alphaChar Gen.cb128) := b128Enc_eq gen_b128_guard bs hb

theorem encode_b85 (bs : List Nat) : encode .b85 bs = (a85Enc bs).map (substOf Gen.b85EncSubst) :=
  b85Enc_eq gen_b85_count bs

theorem encode_subset_b32 (bs : List Nat) : ∀ c ∈ encode .b32 bs, c ∈ Gen.cb32 :=
  gen_cb32.map_subset (radixDigits_lt 5 bs)

theorem encode_subset_b64 (bs : List Nat) : ∀ c ∈ encode .b64 bs, c ∈ Gen.cb64 :=
  gen_cb64.map_subset (radixDigits_lt 6 bs)

theorem encode_subset_b64u (bs : List Nat) : ∀ c ∈ encode .b64u bs, c ∈ Gen.cb64u :=
  gen_cb64u.map_subset (radixDigits_lt 6 bs)

theorem encode_subset_b91 (bs : List Nat) (hb : Bytes bs) : ∀ c ∈ encode .b91 bs, c ∈ Gen.cb91 :=
  gen_cb91.map_subset (b91_digits_lt bs hb 0 0 (by decide) (by decide))

theorem encode_subset_b128 (bs : List Nat) (hb : Bytes bs) : ∀ c ∈ encode .b128 bs, c ∈ Gen.cb128 := by
  rw [encode_b128 bs hb]; exact gen_cb128.map_subset (radixDigits_lt 7 bs)

/-- Base85 has no alphabet table: what it emits are the substituted characters of ascii85 -/
theorem encode_subset_b85 (bs : List Nat) :
    ∀ c ∈ encode .b85 bs, ∃ x, a85Char x = true ∧ substOf Gen.b85EncSubst x = c := by
  intro c hc
  rw [encode_b85, List.mem_map] at hc
  exact hc.imp fun x h => ⟨a85Enc_chars bs x h.1, h.2⟩

/-! ## lengths: codec by codec (the radix codecs by `radixText_length`), then one bound for the whole registry -/

theorem encode_length_b128 (bs : List Nat) (hb : Bytes bs) : (encode .b128 bs).length = (8 * bs.length + 6) / 7 := by
  rw [encode_b128 bs hb]; exact radixText_length 7 _ bs

/-- ascii85: five characters per four bytes, k+1 for a final group of k bytes (fewer with `z`) -/
theorem encode_length_b85 (bs : List Nat) : (encode .b85 bs).length ≤ (5 * bs.length + 3) / 4 := by
  rw [encode_b85, List.length_map]; exact a85Enc_length bs

/-- every codec of the registry, Base192 included, emits at most ratio·n + 2 characters -/
theorem length_tight (cd : Codec) (bs : List Nat) (hb : Bytes bs) :
    cd.ratio.2 * (encode cd bs).length ≤ cd.ratio.1 * bs.length + 2 * cd.ratio.2 := by
  -- `show` evaluates the regenerated ratio; the codec's own length lemma is then enough
  cases cd with
  | b32 => show 5 * _ ≤ 8 * _ + 2 * 5; rw [show (encode .b32 bs).length = _ from radixText_length 5 _ bs]; omega
  | b64 => show 3 * _ ≤ 4 * _ + 2 * 3; rw [show (encode .b64 bs).length = _ from radixText_length 6 _ bs]; omega
  | b64u => show 3 * _ ≤ 4 * _ + 2 * 3; rw [show (encode .b64u bs).length = _ from radixText_length 6 _ bs]; omega
  | b85 => show 4 * _ ≤ 5 * _ + 2 * 4; have := encode_length_b85 bs; omega
  | b91 => show 1000 * _ ≤ 1231 * _ + 2 * 1000; have : 13 * (encode .b91 bs).length ≤ _ := b91Enc_length bs; omega
  | b128 => show 7 * _ ≤ 8 * _ + 2 * 7; rw [encode_length_b128 bs hb]; omega
  | b192 => show 15 * _ ≤ 16 * _ + 2 * 15; have : (encode .b192 bs).length ≤ _ := b192Enc_length bs; omega
  | raw => exact Nat.le_add_right _ _

/-- … hence the worded bound ⌈ratio·n⌉ + 8, whatever the ratio -/
theorem lengthBound_of_tight {r : Nat × Nat} {len n : Nat} (hr : 0 < r.2) (h : r.2 * len ≤ r.1 * n + 2 * r.2) :
    len ≤ ceilMul r n + 8 := by
  have h1 : len ≤ (r.1 * n + 2 * r.2) / r.2 := (Nat.le_div_iff_mul_le hr).2 (by rwa [Nat.mul_comm])
  rw [Nat.add_mul_div_right _ _ hr] at h1
  have h2 : r.1 * n / r.2 ≤ ceilMul r n := Nat.div_le_div_right (by omega)
  omega

theorem length_bound (cd : Codec) (bs : List Nat) (hb : Bytes bs) :
    (encode cd bs).length ≤ ceilMul cd.ratio bs.length + 8 :=
  lengthBound_of_tight (by cases cd <;> decide) (length_tight cd bs hb)

end SA.Codec
