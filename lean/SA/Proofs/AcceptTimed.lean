/-
  The scheduler with handshake watchdogs (SA.Model.AcceptTimed, C15).  Its scheduler actions are the untimed step on
  `base` (`tstep_act_base`); only a watchdog expiry is new.
-/
import SA.Model.AcceptTimed
import SA.Proofs.Accept
namespace SA.Accept

theorem trun_skipRun (wd : Watchdog) (stalled : Nat → Bool) : SkipRun (tstep wd stalled) (trun wd stalled) :=
  ⟨fun _ => rfl, fun s a _ => by rw [trun]; cases tstep wd stalled s a <;> rfl⟩

theorem tstep_act_base (wd : Watchdog) (stalled : Nat → Bool) (s : TSt) (a : AAct) :
    (tstep wd stalled s (.act a)).map (·.base) = astep true stalled s.base a := by
  cases a <;> simp only [tstep] <;> cases astep true stalled s.base _ <;> rfl

theorem tstep_finished_mono {wd : Watchdog} (hwd : wd ≠ .shared) {stalled : Nat → Bool} {s s' : TSt} {a : TAct}
    {p : Nat} (hp : p ∈ s.base.finished) (hs : tstep wd stalled s a = some s') : p ∈ s'.base.finished := by
  cases a with
  | act a =>
    have h := tstep_act_base wd stalled s a
    rw [hs] at h
    exact astep_finished_mono hp h.symm
  | timeout id =>
    cases wd with
    | none => simp [tstep] at hs
    | shared => exact absurd rfl hwd
    | own =>
      simp only [tstep] at hs
      split at hs
      · -- armed: `id` has not finished its handshake, so it is not `p`
        rename_i ha
        simp at hs; subst hs
        simp only [armed, Bool.decide_and, Bool.and_eq_true, decide_eq_true_eq] at ha
        have hne : p ≠ id := fun h => ha.2 (h ▸ hp)
        exact (List.mem_erase_of_ne hne).mpr hp
      · simp at hs

theorem trun_finished_mono {wd : Watchdog} (hwd : wd ≠ .shared) (stalled : Nat → Bool) {s : TSt} (acts : List TAct)
    {p : Nat} (hp : p ∈ s.base.finished) : p ∈ (trun wd stalled s acts).base.finished :=
  (trun_skipRun wd stalled).invariant (tstep_finished_mono hwd) hp acts

theorem trun_none (stalled : Nat → Bool) (s : TSt) (acts : List TAct) :
    (trun .none stalled s acts).base = arun true stalled s.base (baseActs acts) := by
  induction acts generalizing s with
  | nil => rfl
  | cons a as ih =>
    cases a with
    | timeout id => exact ih s
    | act a =>
      have h := tstep_act_base .none stalled s a
      simp only [trun, baseActs, arun, ← h]
      cases tstep .none stalled s (.act a) <;> exact ih _

end SA.Accept
