/-
  The invariant of SA.Model.CarrierClose (C14): the closing goroutine is not held up before it closes the socket — every
  call it still has to make is bounded, or no carrier Write is blocked — and when it is through the socket is closed.
  So where nothing can move the closing goroutine is through (`quiescent_closerDone`); C14 reads the rest off `step`.
-/
import SA.Model.CarrierClose
import SA.Proofs.Run
namespace SA.CarrierClose

structure BInv (s : St) : Prop where
  unheld : (∀ p ∈ s.pre, p = PreStep.bounded) ∨ s.writerBlocked = false
  closed : s.closerDone = true → s.sockClosed = true

theorem step_binv {s s' : St} {a : Act} (h : BInv s) (hs : step s a = some s') : BInv s' := by
  obtain ⟨h1, h2⟩ := h
  cases a <;> simp only [step, Option.ite_none_left_eq_some, Option.ite_none_right_eq_some] at hs
  case sender => obtain ⟨_, hs⟩ := hs; cases hs; exact ⟨Or.inr rfl, h2⟩
  case receiver => obtain ⟨_, hs⟩ := hs; cases hs; exact ⟨h1, h2⟩
  case closer =>
    -- a call the closing goroutine gets through leaves the remaining calls as they were
    have tail : ∀ {q r}, s.pre = q :: r → BInv { s with pre := r } := fun hp =>
      ⟨h1.imp_left fun h1 p hp' => h1 p (hp ▸ List.mem_cons_of_mem _ hp'), h2⟩
    obtain ⟨_, hs⟩ := hs
    split at hs
    · cases hs; exact ⟨h1, fun _ => rfl⟩
    · cases hs; exact tail ‹_›
    · rw [Option.ite_none_left_eq_some] at hs; obtain ⟨_, hs⟩ := hs; cases hs; exact tail ‹_›

theorem run_skipRun : SkipRun step run :=
  ⟨fun _ => rfl, fun s a as => by rw [run]; cases step s a <;> rfl⟩

theorem run_binv {pre : List PreStep} {blocked : Bool} (h : (∀ p ∈ pre, p = PreStep.bounded) ∨ blocked = false)
    (acts : List Act) : BInv (run (init pre blocked) acts) :=
  run_skipRun.invariant step_binv (s := init pre blocked) ⟨h, nofun⟩ acts

theorem quiescent_iff {s : St} :
    quiescent s = true ↔ step s .closer = none ∧ step s .sender = none ∧ step s .receiver = none := by
  simp only [quiescent, Bool.and_eq_true, Option.isNone_iff_eq_none, and_assoc]

/-- the closing goroutine is never held up (`BInv.unheld`): when it cannot move, it is through -/
theorem quiescent_closerDone {s : St} (h : BInv s) (hc : step s .closer = none) : s.closerDone = true := by
  cases hcd : s.closerDone with
  | true => rfl
  | false =>
    simp only [step, hcd, Bool.false_eq_true, if_false] at hc
    -- its next call would have to be one that waits, behind a blocked Write: `unheld` says it is not
    split at hc
    · cases hc
    · cases hc
    · rename_i r hp
      rcases h.unheld with hb | hb
      · cases hb .waits (hp ▸ List.mem_cons_self)
      · simp [hb] at hc

end SA.CarrierClose
