/-
  SA.Proofs.DnsWire — the name layer.

  * `Esc dots b e`: the string `e` spells the byte `b` in presentation format.  Every writer
    (UnpackDomainName, unpackString, WrapDnsResponseTxt's backslash doubling) emits spellings, every reader
    (StripDomain, unescapePresentation, packTxtString) undoes one spelling; `decode_flatMap` /
    `decode_escJoin` lift "undoes one spelling" to strings and to dotted label sequences, once for all readers.
  * A dotted string of well-formed labels packs into exactly those labels (`packName_dotted`); a string that
    ends in two unescaped dots never packs (`nameOverWire_dotdot`).
  * Dotify cuts into `pieces`; PrepareHostname's name is `dotted (hostChunks data ++ domain labels)`.
-/
import SA.Model.DnsWire
import SA.Proofs.Pieces
import SA.Proofs.Bytes

namespace SA.DnsWire
open SA.DnsResp (pieces pieces_nil pieces_flatten pieces_bounds pieces_length ceilDiv_pos)

theorem ddd_escDDD (b : Nat) (h : b < 256) :
    ddd (48 + b / 100) (48 + b / 10 % 10) (48 + b % 10) = b := by
  unfold ddd
  simp only [Nat.add_sub_cancel_left]
  have h1 : b / 10 / 10 = b / 100 := Nat.div_div_eq_div_mul b 10 10
  omega

theorem threeDigits_escDDD (b : Nat) (h : b < 256) (tl : List Nat) :
    threeDigits ((48 + b / 100) :: (48 + b / 10 % 10) :: (48 + b % 10) :: tl) = true := by
  simp [threeDigits, isDigit]; omega

theorem threeDigits_cons_nondigit (b : Nat) (tl : List Nat) (h : isDigit b = false) :
    threeDigits (b :: tl) = false := by
  match tl with
  | [] => rfl
  | [_] => rfl
  | _ :: _ :: _ => simp [threeDigits, h]

/-- `e` spells the byte `b`: as itself, as `\b`, or as `\DDD`.  With `dots` the reader drops bare dots, so
    a bare '.' spells nothing. -/
inductive Esc (dots : Bool) (b : Nat) : List Nat → Prop
  | plain : b ≠ bsl → (dots = true → b ≠ dot) → Esc dots b [b]
  | quoted : isDigit b = false → Esc dots b [bsl, b]
  | ddd : b < 256 → Esc dots b (escDDD b)

theorem unescGo_esc {dots : Bool} {b : Nat} {e : List Nat} (h : Esc dots b e) (tl : List Nat) :
    unescGo dots 0 (e ++ tl) = b :: unescGo dots 0 tl := by
  cases h with
  | plain h1 h2 =>
    -- neither test of the reader fires: the byte is taken as it is
    have hd : (b == dot && dots) = false := by cases dots <;> simp [h2]
    simp [unescGo, hd, h1]
  | quoted h => simp [unescGo, bsl, dot, threeDigits_cons_nondigit b tl h]
  | ddd h => simp [unescGo, bsl, dot, escDDD, threeDigits_escDDD b h tl, dddOf, ddd_escDDD b h]

theorem stripGo_esc {b : Nat} {e : List Nat} (h : Esc true b e) (tl : List Nat) :
    stripGo 0 (e ++ tl) = (stripGo 0 tl).map (b :: ·) := by
  cases h with
  | plain h1 h2 => simp [stripGo, h1, h2 rfl]
  | quoted h => simp [stripGo, bsl, dot, threeDigits_cons_nondigit b tl h]
  | ddd h => simp [stripGo, bsl, dot, escDDD, threeDigits_escDDD b h tl, dddOf, ddd_escDDD b h]

theorem txtToWireGo_esc {b : Nat} {e : List Nat} (h : Esc false b e) (tl : List Nat) :
    txtToWireGo 0 (e ++ tl) = b :: txtToWireGo 0 tl := by
  cases h with
  | plain h1 h2 => simp [txtToWireGo, h1]
  | quoted h => simp [txtToWireGo, bsl, threeDigits_cons_nondigit b tl h]
  | ddd h => simp [txtToWireGo, bsl, escDDD, threeDigits_escDDD b h tl, dddOf, ddd_escDDD b h]

theorem isDigit_false_of {b : Nat} (h : b < 48 ∨ 57 < b) : isDigit b = false := by
  simp [isDigit]; omega

theorem escNameByte_esc {b : Nat} (hb : b < 256) : Esc true b (escNameByte b) := by
  unfold escNameByte
  split
  · rename_i hs
    refine .quoted (isDigit_false_of ?_)
    simp [nameSpecial] at hs; omega
  · rename_i hs
    split
    · exact .ddd hb
    · simp [nameSpecial] at hs
      exact .plain (by simp [bsl]; omega) (fun _ => by simp [dot]; omega)

theorem escTxtByte_esc {b : Nat} (hb : b < 256) : Esc false b (escTxtByte b) := by
  unfold escTxtByte
  split
  · rename_i hs
    refine .quoted (isDigit_false_of ?_)
    simp at hs; omega
  · rename_i hs
    split
    · exact .ddd hb
    · simp at hs
      exact .plain (by simp [bsl]; omega) (fun h => by cases h)

theorem decode_flatMap {α β γ : Type} (D : List α → γ) (esc : β → List α) (act : β → γ → γ) (l : List β)
    (h : ∀ b ∈ l, ∀ tl, D (esc b ++ tl) = act b (D tl)) (tl : List α) :
    D (l.flatMap esc ++ tl) = l.foldr act (D tl) := by
  induction l with
  | nil => rfl
  | cons b l ih =>
    rw [List.flatMap_cons, List.append_assoc, h b List.mem_cons_self, ih fun x hx => h x (List.mem_cons_of_mem _ hx)]
    rfl

/-- the labels as UnpackDomainName prints them, without the dot after the last one -/
def escJoin : List (List Nat) → List Nat
  | [] => []
  | [l] => l.flatMap escNameByte
  | l :: l' :: ls => l.flatMap escNameByte ++ dot :: escJoin (l' :: ls)

theorem decode_escJoin {γ : Type} (D : List Nat → γ) (act : Nat → γ → γ)
    (hesc : ∀ b, b < 256 → ∀ tl, D (escNameByte b ++ tl) = act b (D tl)) (hdot : ∀ tl, D (dot :: tl) = D tl)
    (ls : List (List Nat)) (hb : SA.Bytes ls.flatten) :
    D (escJoin ls) = ls.flatten.foldr act (D []) := by
  induction ls with
  | nil => rfl
  | cons l ls ih =>
    rw [List.flatten_cons, bytes_append_iff] at hb
    have hl := decode_flatMap D escNameByte act l fun b hbl => hesc b (hb.1 b hbl)
    cases ls with
    | nil => simpa [escJoin] using hl []
    | cons l' ls =>
      rw [escJoin, hl, hdot, ih hb.2]
      simp

theorem foldr_map_cons (l x : List Nat) : l.foldr (fun b => Option.map (b :: ·)) (some x) = some (l ++ x) := by
  induction l with
  | nil => rfl
  | cons b l ih => simp [ih]

theorem stripGo_escJoin (ls : List (List Nat)) (hb : SA.Bytes ls.flatten) :
    stripGo 0 (escJoin ls) = some ls.flatten := by
  rw [decode_escJoin (stripGo 0) (fun b => Option.map (b :: ·)) (fun b h => stripGo_esc (escNameByte_esc h))
    (fun tl => by simp [stripGo]) ls hb]
  simpa [stripGo] using foldr_map_cons ls.flatten []

theorem unescGo_escJoin (ls : List (List Nat)) (hb : SA.Bytes ls.flatten) :
    unescGo true 0 (escJoin ls) = ls.flatten := by
  rw [decode_escJoin (unescGo true 0) (· :: ·) (fun b h => unescGo_esc (escNameByte_esc h))
    (fun tl => by simp [unescGo]) ls hb]
  simp [unescGo]

/-- labels followed by a dot each: the presentation form of a fully qualified name -/
def dotted (ls : List (List Nat)) : List Nat := ls.flatMap (· ++ [dot])

/-- no name syntax inside: neither '.' nor '\\' -/
def NoSyntax (l : List Nat) : Prop := ∀ b ∈ l, b ≠ 46 ∧ b ≠ 92

/-- a label packDomainName accepts as it stands -/
def GoodLabel (l : List Nat) : Prop := l ≠ [] ∧ l.length ≤ 63 ∧ NoSyntax l

theorem dotted_cons (l : List Nat) (ls : List (List Nat)) : dotted (l :: ls) = l ++ dot :: dotted ls := by
  simp [dotted]

theorem dotted_append (a b : List (List Nat)) : dotted (a ++ b) = dotted a ++ dotted b := by
  simp [dotted]

theorem dotted_length (ls : List (List Nat)) : (dotted ls).length = (ls.map (fun l => l.length + 1)).sum := by
  induction ls with
  | nil => rfl
  | cons l ls ih => rw [dotted_cons]; simp [ih]; omega

theorem mem_dotted {c : Nat} {ls : List (List Nat)} (h : c ∈ dotted ls) : c = dot ∨ c ∈ ls.flatten := by
  simp only [dotted, List.mem_flatMap, List.mem_append, List.mem_singleton] at h
  obtain ⟨l, hl, h | h⟩ := h
  · exact .inr (List.mem_flatten.mpr ⟨l, hl, h⟩)
  · exact .inl h

theorem packLoop_plain (l : List Nat) (hl : NoSyntax l) (rest cur : List Nat) (acc : List (List Nat)) (w : Bool) :
    packLoop 0 (l ++ dot :: rest) cur acc w = packLoop 0 (dot :: rest) (cur ++ l) acc (w && l.isEmpty) := by
  induction l generalizing cur w with
  | nil => simp
  | cons b l ih =>
    have hb := hl b (by simp)
    have h1 : (b == bsl) = false := by simp [bsl, hb.2]
    have h2 : (b == dot) = false := by simp [dot, hb.1]
    have step : packLoop 0 (b :: (l ++ dot :: rest)) cur acc w = packLoop 0 (l ++ dot :: rest) (cur ++ [b]) acc false := by
      simp [packLoop, h1, h2]
    rw [List.cons_append, step, ih fun x hx => hl x (by simp [hx])]
    simp

theorem packLoop_label (l : List Nat) (hl : GoodLabel l) (rest : List Nat) (acc : List (List Nat)) (w : Bool) :
    packLoop 0 (l ++ dot :: rest) [] acc w = packLoop 0 rest [] (acc ++ [l]) true := by
  obtain ⟨hne, hlen, hns⟩ := hl
  have he : l.isEmpty = false := by simpa using hne
  have h64 : ¬ (64 ≤ l.length) := by omega
  rw [packLoop_plain l hns]
  simp [packLoop, he, h64, show (dot == bsl) = false by decide]

theorem packName_dotted (ls : List (List Nat)) (hls : ∀ l ∈ ls, GoodLabel l) :
    packName (dotted ls) = some ls := by
  have key : ∀ acc w, packLoop 0 (dotted ls) [] acc w = some (acc ++ ls) := by
    induction ls with
    | nil => intro acc w; simp [dotted, packLoop]
    | cons l ls ih =>
      intro acc w
      rw [dotted_cons, packLoop_label l (hls l (by simp)), ih fun x hx => hls x (by simp [hx])]
      simp
  simpa [packName] using key [] false

theorem nameOverWire_dotted (ls : List (List Nat)) (hls : ∀ l ∈ ls, GoodLabel l)
    (hlen : (dotted ls).length < 255) : nameOverWire (dotted ls) = .ok ls := by
  have : nameBudgetOk ls = true := by simpa [nameBudgetOk, ← dotted_length] using hlen
  simp [nameOverWire, packName_dotted ls hls, this]

theorem packLoop_ends_dotdot (s : List Nat) (hs : ∀ c ∈ s, c ≠ bsl) :
    ∀ (cur : List Nat) (acc : List (List Nat)) (w : Bool), packLoop 0 (s ++ [dot, dot]) cur acc w = none := by
  induction s with
  | nil =>
    intro cur acc w
    have hd : (dot == bsl) = false ∧ (dot == dot) = true := ⟨rfl, rfl⟩
    -- the first dot is refused or closes a label; the second is refused because it follows a dot
    simp only [List.nil_append, packLoop, hd, Bool.false_eq_true, if_false, if_true, List.isEmpty_cons, Bool.false_and,
      ite_self]
  | cons c s ih =>
    intro cur acc w
    have hcb : (c == bsl) = false := by simpa using hs c (by simp)
    have ih := ih fun x hx => hs x (by simp [hx])
    have hne : (s ++ [dot, dot]).isEmpty = false := by cases s <;> simp
    -- every branch of one step is `none` or the rest of the string, which ends in the two dots
    simp only [List.cons_append, packLoop, hcb, Bool.false_eq_true, if_false, hne, Bool.false_and, ih, ite_self]

theorem nameOverWire_dotdot (d p : List Nat) (hd : ∀ c ∈ d, c ≠ bsl) (hp : ∀ c ∈ p, c ≠ bsl) :
    nameOverWire (d ++ dot :: (p ++ [dot] ++ [dot])) = .error .pack := by
  have hs : ∀ c ∈ d ++ dot :: p, c ≠ bsl := by
    simp only [List.mem_append, List.mem_cons]
    rintro c (h | rfl | h)
    · exact hd c h
    · decide
    · exact hp c h
  have h := packLoop_ends_dotdot _ hs [] [] false
  simp only [List.append_assoc, List.cons_append] at h
  simp [nameOverWire, packName, h]

/-- a label UnpackDomainName renders unchanged -/
def PlainLabel (l : List Nat) : Prop := ∀ b ∈ l, escNameByte b = [b]

/-- the tunnel domain is a dotted sequence of labels that need no escaping -/
structure DomainOk (domain : List Nat) (dls : List (List Nat)) : Prop where
  dotted_eq : dotted dls = domain ++ [dot]
  good : ∀ l ∈ dls, GoodLabel l
  plain : ∀ l ∈ dls, PlainLabel l

theorem escLabels_dot (ls : List (List Nat)) (hne : ls ≠ []) :
    ls.flatMap (fun l => l.flatMap escNameByte ++ [dot]) = escJoin ls ++ [dot] := by
  induction ls with
  | nil => exact absurd rfl hne
  | cons l ls ih =>
    cases ls with
    | nil => simp [escJoin]
    | cons l' ls => simp [escJoin, ih (by simp)]

theorem escLabels_plain (dls : List (List Nat)) (hp : ∀ l ∈ dls, PlainLabel l) :
    dls.flatMap (fun l => l.flatMap escNameByte ++ [dot]) = dotted dls := by
  simp only [List.flatMap_def, dotted]
  congr 1
  refine List.map_congr_left fun l hl => ?_
  rw [List.map_congr_left (hp l hl), ← List.flatMap_def, List.flatMap_singleton']

theorem unpackName_chunks (chunks dls : List (List Nat)) (domain : List Nat) (hne : chunks ≠ [])
    (hdom : DomainOk domain dls) :
    unpackName (chunks ++ dls) = escJoin chunks ++ dot :: (domain ++ [dot]) := by
  have hnil : (chunks ++ dls).isEmpty = false := by simpa using fun h => absurd h hne
  simp [unpackName, hnil, List.flatMap_append, escLabels_plain dls hdom.plain, hdom.dotted_eq, escLabels_dot chunks hne]

theorem take_sub_append {A B : List Nat} {n : Nat} (hn : n = B.length) : (A ++ B).take ((A ++ B).length - n) = A := by
  simp [hn]

theorem hasSuffix_append (a b : List Nat) : hasSuffix (a ++ b) b = true := by
  simp [hasSuffix]

/-- `c` with `hc` instead of `chunks.flatten`: callers know the flattening by an equation (`hostChunks_flatten`) -/
theorem stripDomain_unpack (chunks dls : List (List Nat)) (domain : List Nat) (hne : chunks ≠ []) {c : List Nat}
    (hc : chunks.flatten = c) (hb : SA.Bytes c) (hdom : DomainOk domain dls) :
    stripDomain (unpackName (chunks ++ dls)) domain = some c := by
  have hsuf : dot :: (domain.map lower ++ [dot]) = (dot :: (domain ++ [dot])).map lower := by
    simp [show lower dot = dot by decide]
  subst hc
  rw [unpackName_chunks chunks dls domain hne hdom]
  unfold stripDomain
  simp only [hsuf, List.map_append, hasSuffix_append, if_true]
  rw [take_sub_append (by simp)]
  exact stripGo_escJoin chunks hb

-- what the lemmas below need of the regenerated constants (each fails to compile when the constant leaves the range)
theorem gen_stride_ge : 57 ≤ SA.Gen.C09.dotifyStride := by decide
theorem gen_stride_pos : 0 < SA.Gen.C09.dotifyStride := Nat.lt_of_lt_of_le (by decide) gen_stride_ge
theorem gen_stride_le : SA.Gen.C09.dotifyStride ≤ 63 := by decide
theorem gen_label_le : SA.Gen.labelMaxLen ≤ 63 := by decide
theorem gen_host_lt : SA.Gen.hostnameMaxLen - SA.Gen.C09.prepareSlack < 254 := by decide

theorem dotifyAux_pieces (stride : Nat) (hs : 0 < stride) (fuel : Nat) (buf : List Nat) (hne : buf ≠ [])
    (hf : buf.length ≤ fuel) : dotifyAux stride fuel buf ++ [dot] = dotted (pieces stride fuel buf) := by
  induction fuel generalizing buf with
  | zero => exact absurd (List.eq_nil_of_length_eq_zero (by omega)) hne
  | succ n ih =>
    have he : buf.isEmpty = false := by simpa using hne
    simp only [dotifyAux, pieces, he, Bool.false_eq_true, if_false, dotted_cons]
    split
    · rename_i h
      rw [← ih _ (by simpa using h) (by simp; omega)]
      simp
    · rw [List.drop_of_length_le (by omega), List.take_of_length_le (by omega), pieces_nil]
      rfl

/-- the labels PrepareHostname makes of the data: Dotify's pieces if the data is longer than a label -/
def hostChunks (data : List Nat) : List (List Nat) :=
  if data.length > SA.Gen.labelMaxLen then pieces SA.Gen.C09.dotifyStride data.length data else [data]

theorem hostChunks_dotted (data : List Nat) :
    (if data.length > SA.Gen.labelMaxLen then dotify data else data) ++ [dot] = dotted (hostChunks data) := by
  unfold hostChunks
  split
  · exact dotifyAux_pieces _ gen_stride_pos _ _ (by rintro rfl; simp at *) (Nat.le_refl _)
  · simp [dotted]

theorem hostChunks_flatten (data : List Nat) : (hostChunks data).flatten = data := by
  unfold hostChunks
  split
  · exact pieces_flatten gen_stride_pos (Nat.le_refl _)
  · simp

theorem hostChunks_ne (data : List Nat) : hostChunks data ≠ [] := by
  intro h
  have := hostChunks_dotted data
  rw [h] at this
  simp [dotted] at this

theorem hostChunks_bounds (data : List Nat) (hne : data ≠ []) : ∀ l ∈ hostChunks data, l ≠ [] ∧ l.length ≤ 63 := by
  unfold hostChunks
  split
  · intro l hl
    have := pieces_bounds gen_stride_pos l hl
    exact ⟨this.1, Nat.le_trans this.2 gen_stride_le⟩
  · intro l hl
    simp at hl; subst hl
    exact ⟨hne, by have := gen_label_le; omega⟩

theorem prepareHostname_some {data domain host : List Nat} (h : prepareHostname data domain = some host) :
    host = (if data.length > SA.Gen.labelMaxLen then dotify data else data) ++ dot :: (domain ++ [dot])
      ∧ host.length ≤ SA.Gen.hostnameMaxLen - SA.Gen.C09.prepareSlack := by
  unfold prepareHostname at h
  generalize (if data.length > SA.Gen.labelMaxLen then dotify data else data) = d at h ⊢
  simp only at h
  split at h
  · exact absurd h (by simp)
  · exact ⟨(Option.some.inj h).symm, by rw [← Option.some.inj h]; omega⟩

theorem prepareHostname_dotted {data domain host : List Nat} {dls : List (List Nat)}
    (hdom : DomainOk domain dls) (hfit : prepareHostname data domain = some host) :
    host = dotted (hostChunks data ++ dls) := by
  rw [(prepareHostname_some hfit).1, dotted_append, ← hostChunks_dotted, hdom.dotted_eq]
  simp

theorem prepareHostname_labels {data domain host : List Nat} {dls : List (List Nat)}
    (hne : data ≠ []) (hd : NoSyntax data) (hdom : DomainOk domain dls)
    (hfit : prepareHostname data domain = some host) :
    nameOverWire host = .ok (hostChunks data ++ dls) := by
  have hgood : ∀ l ∈ hostChunks data ++ dls, GoodLabel l := by
    intro l hl
    rcases List.mem_append.mp hl with hl | hl
    · have := hostChunks_bounds data hne l hl
      exact ⟨this.1, this.2, fun b hb => hd b (hostChunks_flatten data ▸ List.mem_flatten.mpr ⟨l, hl, hb⟩)⟩
    · exact hdom.good l hl
  have hlen := (prepareHostname_some hfit).2
  rw [prepareHostname_dotted hdom hfit] at hlen ⊢
  exact nameOverWire_dotted _ hgood (by have := gen_host_lt; omega)

theorem prepareHostname_fqdn {data p host : List Nat} (h : prepareHostname data (p ++ [dot]) = some host)
    (hd : ∀ c ∈ data, c ≠ bsl) (hp : ∀ c ∈ p, c ≠ bsl) :
    nameOverWire host = .error .pack := by
  rw [(prepareHostname_some h).1]
  refine nameOverWire_dotdot _ p (fun c hc => ?_) hp
  rcases mem_dotted (hostChunks_dotted data ▸ List.mem_append_left [dot] hc) with h | h
  · exact h ▸ (by decide : dot ≠ bsl)
  · exact hd c (hostChunks_flatten data ▸ h)

theorem sum_length_succ (ls : List (List Nat)) :
    (ls.map (fun l => l.length + 1)).sum = ls.flatten.length + ls.length := by
  induction ls with
  | nil => rfl
  | cons l ls ih => simp [ih]; omega

theorem dotify_length (buf : List Nat) :
    (dotify buf).length = buf.length + (buf.length - 1) / SA.Gen.C09.dotifyStride := by
  cases buf with
  | nil => rfl
  | cons b tl =>
    have h := congrArg List.length (dotifyAux_pieces _ gen_stride_pos _ (b :: tl) (by simp) (Nat.le_refl _))
    rw [dotted_length, sum_length_succ, pieces_flatten gen_stride_pos (Nat.le_refl _),
      pieces_length gen_stride_pos (Nat.le_refl _), ceilDiv_pos (n := (b :: tl).length) (Nat.succ_pos _) gen_stride_pos] at h
    simp only [dotify, List.length_append, List.length_singleton] at h ⊢
    omega

theorem prepareHostname_fits (data domain : List Nat)
    (h : data.length + (if data.length > SA.Gen.labelMaxLen then (data.length - 1) / SA.Gen.C09.dotifyStride else 0)
      + domain.length + 2 ≤ SA.Gen.hostnameMaxLen - SA.Gen.C09.prepareSlack) :
    ∃ host, prepareHostname data domain = some host := by
  have hd : (if data.length > SA.Gen.labelMaxLen then dotify data else data).length
      = data.length + (if data.length > SA.Gen.labelMaxLen then (data.length - 1) / SA.Gen.C09.dotifyStride else 0) := by
    split
    · exact dotify_length data
    · rfl
  rw [prepareHostname, if_neg (by simp only [List.length_append, List.length_cons, List.length_nil]; omega)]
  exact ⟨_, rfl⟩

end SA.DnsWire
