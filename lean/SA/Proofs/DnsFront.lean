/-
  SA.Proofs.DnsFront — the one fact C12 and C15 share about SA.Model.DnsFront: a message the DNS library's default
  accept function lets through has exactly one question, and on one question `composeRequest` (the handler's first
  step) cannot fault.
-/
import SA.Model.DnsFront
namespace SA.DnsFront

theorem accepted_compose (m : Msg) (h : acceptedByDefault m = true) : (composeRequest m).isSome = true := by
  obtain ⟨q, ns⟩ := m
  simp only [acceptedByDefault, Bool.and_eq_true, beq_iff_eq] at h
  match ns, h.2 with
  | [n], _ => simp [composeRequest]

end SA.DnsFront
