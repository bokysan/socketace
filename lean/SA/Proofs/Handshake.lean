/-
  SA.Proofs.Handshake — helper lemmas for C06 / C04.
  1. the reader primitives (`readLine`, `skipSpace`, `ensure`) only depend on, and only change, the flattened
     byte stream `Rd.flat`;
  2. simulation: everything built on the primitives gives equal results on readers with equal `flat`
     (this is segmentation independence; the `optimistic` short cut is the one place that looks at the buffer);
  3. the two line parsers cut a line at its first and second space (`cut3`): never a panic, and which lines parse.
  Bytes are numbers, as in the model: 10 = LF, 13 = CR, 32 = SP, 9 = TAB, 58 = ':' (here and in the Handshake* modules).
-/
import SA.Model.Handshake
namespace SA.Handshake

/-- what is before and after the first `c` (strings.Cut) -/
def cut (c : Nat) (l : B) : Option (B × B) :=
  if l.contains c then some (l.takeWhile (· != c), (l.dropWhile (· != c)).drop 1) else none

theorem cut_append {c : Nat} {a : B} (b : B) (h : c ∉ a) : cut c (a ++ c :: b) = some (a, b) := by
  have hne : ∀ x ∈ a, (x != c) = true := fun x hx => by
    have : x ≠ c := fun e => h (e ▸ hx)
    simpa using this
  simp [cut, List.takeWhile_append_of_pos hne, List.dropWhile_append_of_pos hne]

theorem cut_eq_none {c : Nat} {l : B} : cut c l = none ↔ c ∉ l := by
  simp [cut]

theorem cut_eq_some {c : Nat} {l a b : B} : cut c l = some (a, b) ↔ l = a ++ c :: b ∧ c ∉ a := by
  constructor
  · intro h
    have hc : c ∈ l := Decidable.not_not.mp fun hn => by rw [cut_eq_none.mpr hn] at h; cases h
    obtain ⟨a', b', rfl, hn⟩ := List.eq_append_cons_of_mem hc
    rw [cut_append b' hn] at h
    cases h
    exact ⟨rfl, hn⟩
  · rintro ⟨rfl, h⟩; exact cut_append b h

theorem cut_append_left {c : Nat} {a x y : B} (b : B) (h : cut c a = some (x, y)) :
    cut c (a ++ b) = some (x, y ++ b) := by
  obtain ⟨rfl, hx⟩ := cut_eq_some.mp h
  rw [List.append_assoc, List.cons_append, cut_append _ hx]

theorem cut_nl (b : B) : cut 10 b = if hasNL b then some (lineOf b, afterNL b) else none := rfl

theorem cut_nl_some {b x y : B} (h : cut 10 b = some (x, y)) : hasNL b = true ∧ lineOf b = x ∧ afterNL b = y := by
  rw [cut_nl] at h
  split at h
  · cases h; exact ⟨‹_›, rfl, rfl⟩
  · cases h

def flatLine (s : B) : Option B :=
  match cut 10 s with
  | some (l, _) => some (chompCR l)
  | none => if s.isEmpty then none else some s

def flatRest (s : B) : B :=
  match cut 10 s with
  | some (_, rest) => rest
  | none => []

theorem readLineAux_spec (buf : B) (p : List B) :
    (readLineAux buf p).1 = flatLine (buf ++ p.flatten) ∧
    (readLineAux buf p).2.flat = flatRest (buf ++ p.flatten) := by
  induction p generalizing buf with
  | nil =>
    simp only [List.flatten_nil, List.append_nil]
    unfold readLineAux flatLine flatRest
    rw [cut_nl]
    by_cases h : hasNL buf = true
    · simp [h, Rd.flat]
    · by_cases h2 : buf.isEmpty = true <;> simp [h, h2, Rd.flat]
  | cons c cs ih =>
    unfold readLineAux
    by_cases h : hasNL buf = true
    · have e : cut 10 buf = some (lineOf buf, afterNL buf) := by rw [cut_nl, if_pos h]
      simp only [h, if_true, flatLine, flatRest, cut_append_left _ e, Rd.flat, and_self]
    · simp only [h, Bool.false_eq_true, if_false]
      have := ih (buf ++ c)
      simpa [List.flatten_cons, List.append_assoc] using this

theorem readLine_fst (r : Rd) : r.readLine.1 = flatLine r.flat := (readLineAux_spec _ _).1
theorem readLine_snd (r : Rd) : r.readLine.2.flat = flatRest r.flat := (readLineAux_spec _ _).2

theorem skipAux_spec (buf : B) (p : List B) :
    (skipAux buf p).1 = ((buf ++ p.flatten).takeWhile isSpTab).length ∧
    (skipAux buf p).2.flat = (buf ++ p.flatten).dropWhile isSpTab := by
  induction p generalizing buf with
  | nil => simp [skipAux, Rd.flat]
  | cons c cs ih =>
    unfold skipAux
    -- nothing is left of `buf` after its blanks exactly when the blanks are all of it
    have hlen : (buf.takeWhile isSpTab).length + (buf.dropWhile isSpTab).length = buf.length := by
      rw [← List.length_append, List.takeWhile_append_dropWhile]
    rw [List.takeWhile_append, List.dropWhile_append, List.flatten_cons]
    cases hd : buf.dropWhile isSpTab with
    | nil =>
      rw [hd, List.length_nil, Nat.add_zero] at hlen
      obtain ⟨i1, i2⟩ := ih c
      simp only [List.isEmpty_nil, if_true, i1, i2, List.length_append, hlen, and_self]
    | cons x t =>
      rw [hd] at hlen
      have hne : (buf.takeWhile isSpTab).length ≠ buf.length := by
        rw [← hlen, List.length_cons]; omega
      simp [hne, Rd.flat]

theorem skipSpace_fst (r : Rd) : r.skipSpace.1 = (r.flat.takeWhile isSpTab).length := (skipAux_spec _ _).1
theorem skipSpace_snd (r : Rd) : r.skipSpace.2.flat = r.flat.dropWhile isSpTab := (skipAux_spec _ _).2

theorem ensureAux_spec (buf : B) (p : List B) :
    (ensureAux buf p).flat = buf ++ p.flatten ∧ (ensureAux buf p).buf.head? = (buf ++ p.flatten).head? := by
  induction p generalizing buf with
  | nil => cases buf <;> simp [ensureAux, Rd.flat]
  | cons c cs ih =>
    cases buf with
    | nil =>
      have := ih c
      simpa [ensureAux, List.flatten_cons] using this
    | cons b bs => simp [ensureAux, Rd.flat]

theorem ensure_flat (r : Rd) : r.ensure.flat = r.flat := (ensureAux_spec _ _).1
theorem ensure_head (r : Rd) : r.ensure.buf.head? = r.flat.head? := (ensureAux_spec _ _).2

/-! ### simulation: readers with equal `flat` give equal results, and leave readers with equal `flat`

  Each `_sim` has the shape its callers can rewrite with.  A function that returns a pair: `fl x = fl y`, split by `fl_eq`
  (`readLine_sim` apart: its callers match on the pair and need the pair itself rewritten).  One that returns an `Option`
  of a pair (`hdrLoop`, `readMIME`): the same under `Option.map`.  `readHeader`, `readRequest`, `readResponse` are matched
  on by what comes after them, so theirs list the cases, each with both equations to rewrite by (`map_fl_eq_cases` turns
  the `Option.map` shape into that one).  From `upgradeStep` on no reader is left in the result: plain equality. -/

/-- a result with the reader left behind replaced by the bytes it still holds -/
def fl {α : Type} (x : α × Rd) : α × B := (x.1, x.2.flat)

theorem fl_eq {α : Type} {x y : α × Rd} : fl x = fl y ↔ x.1 = y.1 ∧ x.2.flat = y.2.flat := by
  simp [fl]

theorem flat_mk_nil (s : B) : (⟨s, []⟩ : Rd).flat = s := by simp [Rd.flat]

/-- in the form its callers, which match on the pair, take it -/
theorem readLine_sim {r r' : Rd} (h : r.flat = r'.flat) :
    ∃ o r1 r1', r.readLine = (o, r1) ∧ r'.readLine = (o, r1') ∧ r1.flat = r1'.flat := by
  refine ⟨r.readLine.1, r.readLine.2, r'.readLine.2, rfl, Prod.ext ?_ rfl, ?_⟩
  · show r'.readLine.1 = r.readLine.1
    rw [readLine_fst, readLine_fst, h]
  · rw [readLine_snd, readLine_snd, h]

theorem skipSpace_sim {r r' : Rd} (h : r.flat = r'.flat) : fl r.skipSpace = fl r'.skipSpace := by
  simp only [fl, skipSpace_fst, skipSpace_snd, h]

theorem contLoop_sim (fuel : Nat) (acc : B) {r r' : Rd} (h : r.flat = r'.flat) :
    fl (contLoop fuel acc r) = fl (contLoop fuel acc r') := by
  induction fuel generalizing acc r r' with
  | zero => exact fl_eq.mpr ⟨rfl, h⟩
  | succ f ih =>
    obtain ⟨h1, h2⟩ := fl_eq.mp (skipSpace_sim h)
    obtain ⟨o, r2, r2', e, e', l2⟩ := readLine_sim h2
    simp only [contLoop]
    rw [← h1, e, e']
    split
    · exact fl_eq.mpr ⟨rfl, h2⟩
    · cases o with
      | none => exact fl_eq.mpr ⟨rfl, l2⟩
      | some l => exact ih _ l2

theorem contLoop_nospace (fuel : Nat) (acc : B) (r : Rd) (h : r.flat.takeWhile isSpTab = []) :
    (contLoop fuel acc r).1 = acc ∧ (contLoop fuel acc r).2.flat = r.flat := by
  cases fuel with
  | zero => simp [contLoop]
  | succ f =>
    have h0 : r.skipSpace.1 = 0 := by rw [skipSpace_fst, h]; rfl
    simp only [contLoop, h0, if_true, true_and]
    rw [skipSpace_snd]
    have := List.takeWhile_append_dropWhile (p := isSpTab) (l := r.flat)
    rw [h] at this
    simpa using this

theorem optimistic_nospace (r : Rd) (h : optimistic r.buf = true) : r.flat.takeWhile isSpTab = [] := by
  unfold Rd.flat
  cases hb : r.buf with
  | nil => rw [hb] at h; simp [optimistic] at h
  | cons a t =>
    cases t with
    | nil => rw [hb] at h; simp [optimistic] at h
    | cons b t' =>
      rw [hb] at h
      have : isSpTab a = false := by
        simp only [optimistic, isAsciiLetter, isLowerB, isUpperB, Bool.or_eq_true, Bool.and_eq_true,
          decide_eq_true_eq, beq_iff_eq] at h
        simp only [isSpTab, Bool.or_eq_false_iff, beq_eq_false_iff_ne, ne_eq]
        omega
      simp [this]

theorem readCont_sim (fuel : Nat) (line : B) {r r' : Rd} (h : r.flat = r'.flat) :
    fl (readCont fuel line r) = fl (readCont fuel line r') := by
  unfold readCont
  by_cases o : optimistic r.buf = true <;> by_cases o' : optimistic r'.buf = true
  · simp only [o, o', if_true]; exact fl_eq.mpr ⟨rfl, h⟩
  · simp only [o, o', if_true, Bool.false_eq_true, if_false]
    have := contLoop_nospace fuel (trim line) r' (by rw [← h]; exact optimistic_nospace r o)
    exact fl_eq.mpr ⟨this.1.symm, by rw [this.2]; exact h⟩
  · simp only [o, o', if_true, Bool.false_eq_true, if_false]
    have := contLoop_nospace fuel (trim line) r (by rw [h]; exact optimistic_nospace r' o')
    exact fl_eq.mpr ⟨this.1, by rw [this.2]; exact h⟩
  · simp only [o, o', Bool.false_eq_true, if_false]
    exact contLoop_sim fuel _ h

theorem hdrLoop_sim (fuel : Nat) (acc : Headers) {r r' : Rd} (h : r.flat = r'.flat) :
    (hdrLoop fuel acc r).map fl = (hdrLoop fuel acc r').map fl := by
  induction fuel generalizing acc r r' with
  | zero => rfl
  | succ f ih =>
    obtain ⟨o, r1, r1', e, e', l2⟩ := readLine_sim h
    simp only [hdrLoop]
    rw [e, e']
    cases o with
    | none => rfl
    | some line =>
      dsimp only
      split
      · exact congrArg some (fl_eq.mpr ⟨rfl, l2⟩)
      split
      · rfl
      obtain ⟨c1, c2⟩ := fl_eq.mp (readCont_sim f line l2)
      rw [← c1]
      cases cutHeader (readCont f line r1).1 with
      | none => rfl
      | some kvp => exact ih _ c2

theorem readMIME_sim (fuel : Nat) {r r' : Rd} (h : r.flat = r'.flat) :
    (readMIME fuel r).map fl = (readMIME fuel r').map fl := by
  have he : r.ensure.flat = r'.ensure.flat := by rw [ensure_flat, ensure_flat, h]
  have key := hdrLoop_sim fuel [] he
  have hh : r.ensure.buf.head? = r'.ensure.buf.head? := by rw [ensure_head, ensure_head, h]
  simp only [readMIME]
  cases hb : r.ensure.buf <;> cases hb' : r'.ensure.buf <;> rw [hb, hb'] at hh <;> cases hh
  · exact key
  · dsimp only; split
    · rfl
    · exact key

theorem map_fl_eq_cases {α : Type} {x y : Option (α × Rd)} (h : x.map fl = y.map fl) :
    (x = none ∧ y = none) ∨ ∃ a r1 r2, x = some (a, r1) ∧ y = some (a, r2) ∧ r1.flat = r2.flat := by
  cases x <;> cases y <;> simp only [Option.map, Option.some.injEq, fl_eq, reduceCtorEq] at h
  · exact .inl ⟨rfl, rfl⟩
  · rename_i p q
    obtain ⟨a, r1⟩ := p
    obtain ⟨b, r2⟩ := q
    exact .inr ⟨a, r1, r2, rfl, by rw [show a = b from h.1], h.2⟩

theorem readHeader_sim (fuel : Nat) {r r' : Rd} (h : r.flat = r'.flat) :
    (readHeader fuel r = none ∧ readHeader fuel r' = none) ∨
      ∃ l hd r1 r1', readHeader fuel r = some (l, hd, r1) ∧ readHeader fuel r' = some (l, hd, r1') ∧
        r1.flat = r1'.flat := by
  obtain ⟨o, r1, r1', e, e', l2⟩ := readLine_sim h
  unfold readHeader
  rw [e, e']
  cases o with
  | none => exact .inl ⟨rfl, rfl⟩
  | some l =>
    dsimp only
    rcases map_fl_eq_cases (readMIME_sim fuel l2) with ⟨m, m'⟩ | ⟨hd, ra, rb, m, m', hf⟩ <;> rw [m, m']
    · exact .inl ⟨rfl, rfl⟩
    · exact .inr ⟨l, hd, ra, rb, rfl, rfl, hf⟩

theorem readRequest_sim (fuel : Nat) {r r' : Rd} (h : r.flat = r'.flat) :
    (∃ q r1 r1', readRequest fuel r = .ok (q, r1) ∧ readRequest fuel r' = .ok (q, r1') ∧ r1.flat = r1'.flat) ∨
      (readRequest fuel r = .err ∧ readRequest fuel r' = .err) ∨
      (readRequest fuel r = .panic ∧ readRequest fuel r' = .panic) := by
  unfold readRequest
  rcases readHeader_sim fuel h with ⟨e, e'⟩ | ⟨l, hd, r1, r1', e, e', hf⟩ <;> rw [e, e']
  · exact .inr (.inl ⟨rfl, rfl⟩)
  · dsimp only
    rcases parseRequestLine l with ⟨m, u, p⟩ | _ | _
    · exact .inl ⟨_, _, _, rfl, rfl, hf⟩
    · exact .inr (.inl ⟨rfl, rfl⟩)
    · exact .inr (.inr ⟨rfl, rfl⟩)

theorem readRequest_sim_ok {fuel : Nat} {r r' r1 : Rd} {req : Request} (h : r.flat = r'.flat)
    (e : readRequest fuel r = .ok (req, r1)) : ∃ r1', readRequest fuel r' = .ok (req, r1') ∧ r1'.flat = r1.flat := by
  rcases readRequest_sim fuel h with ⟨q, ra, rb, f, f', hab⟩ | ⟨f, _⟩ | ⟨f, _⟩ <;> rw [e] at f <;>
    cases f
  exact ⟨rb, f', hab.symm⟩

theorem readResponse_sim (fuel : Nat) {r r' : Rd} (h : r.flat = r'.flat) :
    (∃ q r1 r1', readResponse fuel r = .ok (q, r1) ∧ readResponse fuel r' = .ok (q, r1') ∧ r1.flat = r1'.flat) ∨
      (readResponse fuel r = .err ∧ readResponse fuel r' = .err) ∨
      (readResponse fuel r = .panic ∧ readResponse fuel r' = .panic) := by
  unfold readResponse
  rcases readHeader_sim fuel h with ⟨e, e'⟩ | ⟨l, hd, r1, r1', e, e', hf⟩ <;> rw [e, e']
  · exact .inr (.inl ⟨rfl, rfl⟩)
  · dsimp only
    rcases parseResponseLine l with ⟨p, c, m⟩ | _ | _
    · exact .inl ⟨_, _, _, rfl, rfl, hf⟩
    · exact .inr (.inl ⟨rfl, rfl⟩)
    · exact .inr (.inr ⟨rfl, rfl⟩)

/-! ### the two line parsers: `a SP b SP c`, cut at the first and the second space

  `cut3` is what Go's index and slice expressions compute (`goCut3`, `goSlices`); `parseRequestLine_eq` /
  `parseResponseLine_eq` say so once, and everything about the line parsers is read off them. -/

theorem goIndex_eq (l : B) (c : Nat) :
    goIndex l c = match cut c l with
      | some (a, _) => (a.length : Int)
      | none => -1 := by
  unfold goIndex cut
  split <;> rfl

theorem goSlice_nat (l : B) {i j : Nat} (hij : i ≤ j) (hj : j ≤ l.length) :
    goSlice l (i : Int) (j : Int) = some ((l.drop i).take (j - i)) := by
  have h : (0 : Int) ≤ i ∧ (i : Int) ≤ j ∧ (j : Int) ≤ l.length :=
    ⟨Int.natCast_nonneg _, Int.ofNat_le.mpr hij, Int.ofNat_le.mpr hj⟩
  simp [goSlice, h]

theorem goSlice_mid (x y z : B) :
    goSlice (x ++ (y ++ z)) (x.length : Int) ((x.length + y.length : Nat) : Int) = some y := by
  rw [goSlice_nat _ (Nat.le_add_right _ _) (by simp only [List.length_append]; omega)]
  simp

theorem goSliceFrom_mid (x y : B) : goSliceFrom (x ++ y) (x.length : Int) = some y := by
  simpa [goSliceFrom] using goSlice_mid x y []

def cut3 (line : B) : Option (B × B × B) :=
  match cut 32 line with
  | none => none
  | some (a, rest) =>
    match cut 32 rest with
    | none => none
    | some (b, c) => some (a, b, c)

theorem cut3_eq_some {line a b c : B} :
    cut3 line = some (a, b, c) ↔ line = a ++ [32] ++ b ++ [32] ++ c ∧ 32 ∉ a ∧ 32 ∉ b := by
  unfold cut3
  constructor
  · intro h
    split at h
    · cases h
    rename_i a' rest h1
    split at h
    · cases h
    rename_i b' c' h2
    cases h
    obtain ⟨rfl, ha⟩ := cut_eq_some.mp h1
    obtain ⟨rfl, hb⟩ := cut_eq_some.mp h2
    exact ⟨by simp, ha, hb⟩
  · rintro ⟨rfl, ha, hb⟩
    rw [show a ++ [32] ++ b ++ [32] ++ c = a ++ 32 :: (b ++ 32 :: c) by simp, cut_append _ ha]
    simp only [cut_append _ hb]

/-- what the two line parsers share: the index of the first space, the rest of the line sliced off, the index of the
    second space in it; `k` is what a parser does with the two indices -/
theorem goCut3 {α : Type} (line : B) (k : Int → Int → Parsed α) :
    (match goSliceFrom line (goIndex line 32 + 1) with
     | none => Parsed.panic
     | some tl =>
       if goIndex line 32 < 0 ∨ goIndex tl 32 < 0 then .err
       else k (goIndex line 32) (goIndex tl 32 + goIndex line 32 + 1)) =
    match cut3 line with
    | none => .err
    | some (a, b, _) => k a.length (b.length + a.length + 1) := by
  unfold cut3
  rw [goIndex_eq line]
  cases h1 : cut 32 line with
  | none =>
    have : goSliceFrom line 0 = some line := goSliceFrom_mid [] line
    simp [show ((-1 : Int) + 1) = 0 from rfl, this]
  | some x =>
    obtain ⟨a, rest⟩ := x
    obtain ⟨rfl, -⟩ := cut_eq_some.mp h1
    have := goSliceFrom_mid (a ++ [32]) rest
    simp only [List.append_assoc, List.singleton_append, List.length_append, List.length_singleton, Int.natCast_add,
      Int.natCast_one] at this
    simp only [this]
    rw [goIndex_eq rest]
    cases cut 32 rest with
    | none => simp
    | some y => obtain ⟨b, c⟩ := y; simp only; rw [if_neg (by omega)]

theorem goSlices {line a b c : B} (h : cut3 line = some (a, b, c)) :
    goSlice line 0 (a.length : Int) = some a ∧
    goSlice line ((a.length : Int) + 1) ((b.length : Int) + (a.length : Int) + 1) = some b ∧
    goSliceFrom line ((b.length : Int) + (a.length : Int) + 1 + 1) = some c := by
  obtain ⟨rfl, -, -⟩ := cut3_eq_some.mp h
  rw [show a ++ [32] ++ b ++ [32] ++ c = a ++ 32 :: (b ++ 32 :: c) by simp]
  refine ⟨?_, ?_, ?_⟩
  · simpa using goSlice_mid [] a (32 :: (b ++ 32 :: c))
  · have := goSlice_mid (a ++ [32]) b (32 :: c)
    simp only [List.append_assoc, List.singleton_append, List.length_append, List.length_singleton] at this
    rw [← this]; congr 1; omega
  · have := goSliceFrom_mid (a ++ 32 :: b ++ [32]) c
    simp only [List.append_assoc, List.cons_append, List.nil_append, List.length_append, List.length_cons,
      List.length_nil] at this
    rw [← this]; congr 1; omega

theorem parseRequestLine_eq (line : B) :
    parseRequestLine line =
      match cut3 line with
      | none => .err
      | some x => .ok x := by
  refine (goCut3 line fun s1 s2 =>
    match goSlice line 0 s1, goSlice line (s1 + 1) s2, goSliceFrom line (s2 + 1) with
    | some a, some b, some c => .ok (a, b, c)
    | _, _, _ => .panic).trans ?_
  cases h : cut3 line with
  | none => rfl
  | some x =>
    obtain ⟨s1, s2, s3⟩ := goSlices h
    simp only [s1, s2, s3]

theorem parseResponseLine_eq (line : B) :
    parseResponseLine line =
      match cut3 line with
      | none => .err
      | some (proto, st, text) =>
        match parseInt32 st with
        | none => .err
        | some code => .ok (proto, code, text) := by
  refine (goCut3 line fun s1 s2 =>
    match goSlice line (s1 + 1) s2 with
    | none => .panic
    | some status =>
      match parseInt32 status with
      | none => .err
      | some sc =>
        match goSlice line 0 s1, goSliceFrom line (s2 + 1) with
        | some a, some c => .ok (a, sc, c)
        | _, _ => .panic).trans ?_
  cases h : cut3 line with
  | none => rfl
  | some x =>
    obtain ⟨s1, s2, s3⟩ := goSlices h
    simp only [s1, s2, s3]

theorem parseRequestLine_ne_panic (line : B) : parseRequestLine line ≠ .panic := by
  rw [parseRequestLine_eq]
  cases cut3 line <;> nofun

theorem parseResponseLine_ne_panic (line : B) : parseResponseLine line ≠ .panic := by
  rw [parseResponseLine_eq]
  cases cut3 line with
  | none => nofun
  | some x => dsimp only; cases parseInt32 x.2.1 <;> nofun

theorem readRequest_ne_panic (fuel : Nat) (r : Rd) : readRequest fuel r ≠ .panic := by
  unfold readRequest
  cases readHeader fuel r with
  | none => nofun
  | some x =>
    dsimp only
    cases hp : parseRequestLine x.1 with
    | panic => exact absurd hp (parseRequestLine_ne_panic _)
    | _ => nofun

theorem readResponse_ne_panic (fuel : Nat) (r : Rd) : readResponse fuel r ≠ .panic := by
  unfold readResponse
  cases readHeader fuel r with
  | none => nofun
  | some x =>
    dsimp only
    cases hp : parseResponseLine x.1 with
    | panic => exact absurd hp (parseResponseLine_ne_panic _)
    | _ => nofun

theorem parseRequestLine_ok_iff {line m u p : B} :
    parseRequestLine line = .ok (m, u, p) ↔ line = m ++ [32] ++ u ++ [32] ++ p ∧ 32 ∉ m ∧ 32 ∉ u := by
  rw [parseRequestLine_eq, ← cut3_eq_some]
  cases cut3 line <;> simp

theorem readRequest_ok_iff {f : Nat} {r r1 : Rd} {m u p : B} {h : Headers} :
    readRequest f r = .ok (⟨m, u, p, h⟩, r1) ↔
      readHeader f r = some (m ++ [32] ++ u ++ [32] ++ p, h, r1) ∧ 32 ∉ m ∧ 32 ∉ u := by
  unfold readRequest
  cases readHeader f r with
  | none => simp
  | some x =>
    obtain ⟨l, hd, r'⟩ := x
    dsimp only
    constructor
    · intro e
      cases hp : parseRequestLine l <;> rw [hp] at e <;> cases e
      obtain ⟨rfl, n⟩ := parseRequestLine_ok_iff.mp hp
      exact ⟨rfl, n⟩
    · rintro ⟨e, n⟩
      cases e
      rw [parseRequestLine_ok_iff.mpr ⟨rfl, n⟩]

theorem parseResponseLine_render (proto st text : B) (code : Int) (hp : 32 ∉ proto) (hs : 32 ∉ st)
    (hc : parseInt32 st = some code) :
    parseResponseLine (proto ++ [32] ++ st ++ [32] ++ text) = .ok (proto, code, text) := by
  rw [parseResponseLine_eq, cut3_eq_some.mpr ⟨rfl, hp, hs⟩]
  simp only [hc]

end SA.Handshake
