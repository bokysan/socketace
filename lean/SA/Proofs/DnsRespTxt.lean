/-
  SA.Proofs.DnsRespTxt — WrapDnsResponseTxt over every payload length.

  The Go loop (model: `txtStrings`, with its two accumulators) is shown equal to a plain description:
  cut the payload into 253-byte pieces, group the pieces 250 to a record, put the two-character order
  tag in front of the first piece of each record, double the backslashes of every string
  (`wrap_txt`: one record `txtRec o g` per group `g`; the loop's invariant is `txtStrings_spec`).  One such
  record survives packTxtString / unpackString / unescapePresentation as the concatenation of its pieces
  (`txt_record`).
-/
import SA.Proofs.DnsRespMulti

namespace SA.DnsResp
open SA.DnsWire SA.WireCodec SA.DnsReq

/-- one TXT record: the strings of a group of pieces, the tag in front of the first -/
def txtRec (o : Nat) : List (List Nat) → List (List Nat)
  | [] => []
  | p :: ps => escapeBackslashes (orderTag o ++ p) :: ps.map escapeBackslashes

/-- one step of the loop, seen from a state that holds the strings of the pieces `g` of record `o`: the string it
    adds completes them to the strings of `g ++ [p]`, and the next number is `o + 1` in any case -/
theorem txtRec_snoc (o : Nat) (g : List (List Nat)) (p : List Nat) :
    escapeBackslashes ((if (txtRec o g).reverse.isEmpty then orderTag (if g.isEmpty then o else o + 1) else []) ++ p)
        :: (txtRec o g).reverse = (txtRec o (g ++ [p])).reverse
    ∧ (if (txtRec o g).reverse.isEmpty then (if g.isEmpty then o else o + 1) + 1 else (if g.isEmpty then o else o + 1))
        = o + 1
    ∧ (txtRec o (g ++ [p])).length = g.length + 1 := by
  cases g <;> simp [txtRec]

/-- no data left: the current record, if it has a string, is the last -/
theorem txtRec_last (k o : Nat) (g : List (List Nat)) (recs : List (List (List Nat))) (hg : g.length < k)
    (F : Nat) (hF : g.length ≤ F) :
    (if (txtRec o g).reverse.isEmpty then recs.reverse else ((txtRec o g).reverse.reverse :: recs).reverse)
      = recs.reverse ++ ((pieces k F g).zipIdx o).map fun gi => txtRec gi.2 gi.1 := by
  cases g with
  | nil => simp [txtRec, pieces_nil]
  | cons q g =>
    rw [pieces_short (Nat.lt_of_lt_of_le (Nat.succ_pos _) hF) (by simp) (Nat.le_of_lt hg)]
    simp [txtRec]

/-- the loop of WrapDnsResponseTxt in the middle of its work: `recs` are the finished records, the current one holds the
    strings of the pieces `g` and has number `o`.  What it returns is what cutting `g` and the remaining pieces
    into groups of `k` gives.  -/
theorem txtStrings_spec (chunk k : Nat) (hk : 0 < k) (fuel x : Nat) (data : List Nat)
    (recs : List (List (List Nat))) (o : Nat) (g : List (List Nat)) (F : Nat) (hg : g.length < k)
    (hF : (g ++ pieces chunk fuel data).length ≤ F) :
    txtStrings chunk k fuel (if g.isEmpty then o else o + 1) x data recs (txtRec o g).reverse
      = recs.reverse ++ ((pieces k F (g ++ pieces chunk fuel data)).zipIdx o).map fun gi => txtRec gi.2 gi.1 := by
  induction fuel generalizing x data recs o g F with
  | zero => simpa [txtStrings, pieces] using txtRec_last k o g recs hg F (by simpa [pieces] using hF)
  | succ n ih =>
    rw [txtStrings, pieces]
    by_cases he : data.isEmpty = true
    · simpa [he] using txtRec_last k o g recs hg F (by simpa [pieces, he] using hF)
    · rw [pieces, if_neg he] at hF
      simp only [he, Bool.false_eq_true, if_false, gen_wrapTxtEscapes, if_true]
      obtain ⟨hcur, hord, hlen⟩ := txtRec_snoc o g (data.take chunk)
      rw [hcur, hord, List.length_reverse, hlen]
      rw [List.append_cons g _ (pieces chunk n _)] at hF ⊢
      split
      · rename_i hfull
        -- the record is full: it joins `recs`, and the next one starts empty with number `o + 1`
        have := ih 0 (data.drop chunk) ((txtRec o (g ++ [data.take chunk])) :: recs) (o + 1) [] (F - 1) hk
          (by simp at hF ⊢; omega)
        rw [pieces_append hk (by simp at hF; omega) (by simpa using hfull)]
        simpa [txtRec] using this
      · rename_i hfull
        have := ih 0 (data.drop chunk) recs o (g ++ [data.take chunk]) F (by simp at hfull ⊢; omega) hF
        simpa using this

theorem txtPieces_length_le (data : List Nat) : (pieces SA.Gen.C09.wrapChunkTxt data.length data).length ≤ data.length :=
  pieces_length_le gen_txtChunk_pos _ _

theorem wrap_txt (domain data : List Nat) :
    wrap .txt domain data = recsFrom (fun o g => some (.txt (txtRec o g))) 0
      (pieces SA.Gen.C09.wrapTxtStrings data.length (pieces SA.Gen.C09.wrapChunkTxt data.length data)) := by
  have h : txtStrings SA.Gen.C09.wrapChunkTxt SA.Gen.C09.wrapTxtStrings data.length 0 0 data [] [] = _ :=
    txtStrings_spec _ _ gen_txtStrings_pos data.length 0 data [] 0 [] data.length gen_txtStrings_pos (txtPieces_length_le data)
  rw [recsFrom_some, wrap, h]
  simp

theorem txtFromWire_flatten (ws : List (List Nat)) : (ws.map txtFromWire).flatten = txtFromWire ws.flatten := by
  induction ws with
  | nil => rfl
  | cons w ws ih => simp [txtFromWire, List.flatMap_append] at ih ⊢; rw [ih]

theorem sum_len_le (l : List (List Nat)) (b : Nat) (h : ∀ w ∈ l, w.length + 1 ≤ b) :
    (l.map (fun w => w.length + 1)).sum ≤ l.length * b := by
  induction l with
  | nil => simp
  | cons w l ih =>
    have h1 := h w (List.mem_cons_self)
    have h2 := ih (fun x hx => h x (List.mem_cons_of_mem _ hx))
    simp only [List.map_cons, List.sum_cons, List.length_cons, Nat.succ_mul]
    omega

theorem txt_record (L o : Nat) (g : List (List Nat)) (hne : g ≠ [])
    (hlen : g.length ≤ SA.Gen.C09.wrapTxtStrings)
    (hp : ∀ p ∈ g, p.length ≤ SA.Gen.C09.wrapChunkTxt ∧ SA.Bytes p) :
    ∃ r', rrOverWire (.txt (txtRec o g)) = .ok r' ∧ typePriority r' = some (tagKey .txt o)
      ∧ unwrapOne L r' = some g.flatten := by
  cases g with
  | nil => exact absurd rfl hne
  | cons p ps =>
    rw [gen_wrapChunkTxt] at hp
    rw [gen_wrapTxtStrings] at hlen
    have hws : (txtRec o (p :: ps)).map txtToWire = (orderTag o ++ p) :: ps := by
      simp [txtRec, txtToWire_escape, Function.comp_def]
    have hshort : ∀ w ∈ (orderTag o ++ p) :: ps, w.length + 1 ≤ 256 := by
      intro w hw
      rcases List.mem_cons.mp hw with rfl | hw
      · have := (hp p (List.mem_cons_self)).1
        simp [orderTag]; omega
      · have := (hp w (List.mem_cons_of_mem _ hw)).1
        omega
    have hany : ((orderTag o ++ p) :: ps).any (fun w => decide (w.length > 255)) = false := by
      rw [List.any_eq_false]
      intro w hw
      have := hshort w hw
      simp; omega
    have hsum : ¬ ((((orderTag o ++ p) :: ps).map (fun w => w.length + 1)).sum > 65535) := by
      have := sum_len_le _ 256 hshort
      simp only [List.length_cons] at this hlen
      have h2 : (ps.length + 1) * 256 ≤ 250 * 256 := Nat.mul_le_mul_right _ hlen
      omega
    refine ⟨.txt (((orderTag o ++ p) :: ps).map txtFromWire), ?_, ?_, ?_⟩
    · simp only [rrOverWire, hws, hany, Bool.false_eq_true, if_false, hsum]
    · have : txtFromWire (orderTag o ++ p) = b32Char o :: b32Char (o / 16) :: txtFromWire p := by
        simp [txtFromWire, orderTag, escTxtByte_b32Char]
      simp only [List.map_cons, typePriority, this, tagKey, key32]
    · have hb : SA.Bytes ((orderTag o ++ p) :: ps).flatten := by
        simp only [List.flatten_cons, bytes_append_iff]
        exact ⟨⟨(orderTag_safe o).bytes, (hp p List.mem_cons_self).2⟩, fun b hb =>
          let ⟨w, hw, hbw⟩ := List.mem_flatten.mp hb; (hp w (List.mem_cons_of_mem _ hw)).2 b hbw⟩
      simp only [unwrapOne, gen_unwrapUnescapesTxt, if_true, txtFromWire_flatten, unesc_txtFromWire _ hb]
      simp [orderTag]

end SA.DnsResp
