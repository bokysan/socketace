/-
  SA.Proofs.DnsServer — the state of the DNS server model (C12/C13): its invariant, and what each operation leaves alone.

  Every operation of the server is a composition of three state changes:
    `σ.modify s f`      one session object changed in place       (touch, packet, set-options, Write, `closed := true`)
    `σ.setTable t i v`  one slot of the live / retired table set  (closeConnection, the pruning task)
    `storeSlot σ i a`   a new session object appended to the heap and stored in live slot `i`   (newUser)
  For each of them the projections, the invariant (`…_inv`) and the frame (`…_frame`) are proved once; an operation gets
  its own two by composition (`retire_inv`, `retire_frame` show how).  Before them stand the branch equations of the
  server model's `InQ.append` (as SA.Proofs.QueueOps has them for the two-endpoint model), which SA.Proofs.DnsServerProv and
  SA.Proofs.DnsServerRefine use.
-/
import SA.Model.DnsSessions
import SA.Proofs.Run

namespace SA.DnsServer
open SA.Go SA.Go.Res

/-! ### InQueue.Append, branch by branch -/

theorem InQ.append_dup {i : InQ} {seq : Nat} {data : List Nat} (h : i.acked.contains seq = true) :
    i.append (some (seq, data)) = some i := by
  simp only [InQ.append, h, ite_true]

theorem InQ.append_next {i : InQ} {seq : Nat} {data : List Nat} (h : i.acked.contains seq = false) (h2 : seq = i.next) :
    i.append (some (seq, data)) = some
      (let q2 := drainFuture i.future.length
        { i with buf := i.buf ++ data, next := u16 (i.next + 1), acked := i.acked ++ [seq] }
       if q2.acked.length > SA.Gen.maxCachedChunks then { q2 with acked := q2.acked.drop 1 } else q2) := by
  have : (seq == i.next) = true := by simpa using h2
  simp only [InQ.append]
  rw [if_neg (by rw [h]; simp), if_pos this]

theorem InQ.append_far {i : InQ} {seq : Nat} {data : List Nat} (h : i.acked.contains seq = false) (h2 : seq ≠ i.next) :
    i.append (some (seq, data)) =
      if inWindow i.next seq then some { i with future := i.future ++ [(seq, data)], acked := i.acked ++ [seq] } else none := by
  have : ¬ (seq == i.next) = true := by simpa using h2
  simp only [InQ.append]
  rw [if_neg (by rw [h]; simp), if_neg this]

/-! ### the three state changes -/

theorem sess_modify (σ : Srv) (s t : Nat) (f : Sess → Sess) :
    (σ.modify s f).sess t = if t = s ∧ s < σ.heap.length then f (σ.sess s) else σ.sess t := by
  by_cases h : t = s
  · subst h
    by_cases h2 : t < σ.heap.length <;> simp [Srv.sess, Srv.modify, h2, List.getD_eq_getElem?_getD]
  · have h' : ¬ s = t := fun e => h e.symm
    simp [Srv.sess, Srv.modify, h, h', List.getD_eq_getElem?_getD]

theorem heap_length_modify (σ : Srv) (s : Nat) (f : Sess → Sess) : (σ.modify s f).heap.length = σ.heap.length := by
  simp [Srv.modify]

@[simp] theorem live_modify (σ : Srv) (s : Nat) (f : Sess → Sess) : (σ.modify s f).live = σ.live := rfl
@[simp] theorem retired_modify (σ : Srv) (s : Nat) (f : Sess → Sess) : (σ.modify s f).retired = σ.retired := rfl
@[simp] theorem now_modify (σ : Srv) (s : Nat) (f : Sess → Sess) : (σ.modify s f).now = σ.now := rfl

theorem sess_setTable (σ : Srv) (t i : Nat) (v : Option Nat) (s : Nat) : (σ.setTable t i v).sess s = σ.sess s := by
  unfold Srv.setTable; split <;> rfl

theorem heap_setTable (σ : Srv) (t i : Nat) (v : Option Nat) : (σ.setTable t i v).heap = σ.heap := by
  unfold Srv.setTable; split <;> rfl

theorem now_setTable (σ : Srv) (t i : Nat) (v : Option Nat) : (σ.setTable t i v).now = σ.now := by
  unfold Srv.setTable; split <;> rfl

theorem live_setTable (σ : Srv) (t i : Nat) (v : Option Nat) :
    (σ.setTable t i v).live = if t = 0 then σ.live.set i v else σ.live := by
  unfold Srv.setTable; split <;> rfl

theorem retired_setTable (σ : Srv) (t i : Nat) (v : Option Nat) :
    (σ.setTable t i v).retired = if t = 0 then σ.retired else σ.retired.set i v := by
  unfold Srv.setTable; split <;> rfl

/-- first half of `newUser`: find the lowest free slot (and release the lock) -/
def findSlot (σ : Srv) : Option Nat := firstFree σ.live

/-- second half of `newUser`: build the session and store it into the slot found earlier -/
def storeSlot (σ : Srv) (i addr : Nat) : Srv :=
  { σ with live := σ.live.set i (some σ.heap.length), heap := σ.heap ++ [{ uid := i, owner := addr, last := σ.now }] }

theorem sess_storeSlot (σ : Srv) (i a t : Nat) :
    (storeSlot σ i a).sess t = if t = σ.heap.length then { uid := i, owner := a, last := σ.now } else σ.sess t := by
  simp only [storeSlot, Srv.sess, List.getD_eq_getElem?_getD, List.getElem?_append]
  split
  · next h => rw [if_neg (Nat.ne_of_lt h)]
  · split
    · next h => simp [h]
    · rw [List.getElem?_eq_none (by simp; omega), List.getElem?_eq_none (by omega)]

theorem heap_length_storeSlot (σ : Srv) (i a : Nat) : (storeSlot σ i a).heap.length = σ.heap.length + 1 := by
  simp [storeSlot]

theorem live_storeSlot (σ : Srv) (i a : Nat) : (storeSlot σ i a).live = σ.live.set i (some σ.heap.length) := rfl

/-! ### the invariant of reachable states -/

structure Inv (σ : Srv) : Prop where
  lenL : σ.live.length = SA.Gen.maxUsers
  lenR : σ.retired.length = SA.Gen.maxUsers
  liveOk : ∀ i sid, σ.live[i]? = some (some sid) → sid < σ.heap.length ∧ (σ.sess sid).uid = i
  retOk : ∀ i sid, σ.retired[i]? = some (some sid) → sid < σ.heap.length ∧ (σ.sess sid).uid = i
  fragOk : ∀ sid, sid < σ.heap.length → 1 ≤ (σ.sess sid).frag ∧ (σ.sess sid).frag ≤ SA.Gen.maxDownstreamFragmentSize
  uidOk : ∀ sid, sid < σ.heap.length → (σ.sess sid).uid < SA.Gen.maxUsers

/-- `Inv.liveOk`, `Inv.retOk`: this, of the two tables -/
def TableOk (σ : Srv) (tbl : List (Option Nat)) : Prop :=
  ∀ i sid, tbl[i]? = some (some sid) → sid < σ.heap.length ∧ (σ.sess sid).uid = i

theorem TableOk.set {σ : Srv} {tbl : List (Option Nat)} (h : TableOk σ tbl) (i : Nat) (v : Option Nat)
    (hv : ∀ s, v = some s → s < σ.heap.length ∧ (σ.sess s).uid = i) : TableOk σ (tbl.set i v) := by
  intro j s hj
  rw [List.getElem?_set] at hj
  split at hj
  · next hij =>
    subst hij
    split at hj
    · exact hv s (Option.some.inj hj)
    · cases hj
  · exact h j s hj

theorem TableOk.heap {σ σ' : Srv} {tbl : List (Option Nat)} (h : TableOk σ tbl) (hlen : σ.heap.length ≤ σ'.heap.length)
    (huid : ∀ sid, sid < σ.heap.length → (σ'.sess sid).uid = (σ.sess sid).uid) : TableOk σ' tbl :=
  fun i sid hi => ⟨Nat.lt_of_lt_of_le (h i sid hi).1 hlen, (huid sid (h i sid hi).1).trans (h i sid hi).2⟩

/-- what the invariant says of one session object (`Inv.fragOk`, `Inv.uidOk`) -/
structure SessOk (x : Sess) : Prop where
  frag : 1 ≤ x.frag ∧ x.frag ≤ SA.Gen.maxDownstreamFragmentSize
  uid : x.uid < SA.Gen.maxUsers

theorem Inv.sessOk {σ : Srv} (h : Inv σ) {sid : Nat} (hs : sid < σ.heap.length) : SessOk (σ.sess sid) :=
  ⟨h.fragOk sid hs, h.uidOk sid hs⟩

/-- the invariant from `TableOk` of both tables and `SessOk` of every session object: the `…_inv` lemmas take it apart
    by its fields (`Inv.liveOk : TableOk σ σ.live`) and `Inv.sessOk`, and put it together here -/
theorem Inv.of_parts {σ : Srv} (hL : σ.live.length = SA.Gen.maxUsers) (hR : σ.retired.length = SA.Gen.maxUsers)
    (hl : TableOk σ σ.live) (hr : TableOk σ σ.retired) (hs : ∀ sid, sid < σ.heap.length → SessOk (σ.sess sid)) : Inv σ :=
  ⟨hL, hR, hl, hr, fun sid h => (hs sid h).frag, fun sid h => (hs sid h).uid⟩

theorem init_inv : Inv Srv.init :=
  have tbl : TableOk Srv.init (List.replicate SA.Gen.maxUsers none) := fun i sid h => by
    simp [List.getElem?_replicate] at h
  .of_parts List.length_replicate List.length_replicate tbl tbl fun _ h => absurd h (Nat.not_lt_zero _)

theorem modify_inv {σ : Srv} (hI : Inv σ) (s : Nat) (f : Sess → Sess) (hu : ∀ x, (f x).uid = x.uid)
    (hf : ∀ x, SessOk x → SessOk (f x)) : Inv (σ.modify s f) := by
  have hlen := Nat.le_of_eq (heap_length_modify σ s f).symm
  have huid : ∀ sid, sid < σ.heap.length → ((σ.modify s f).sess sid).uid = (σ.sess sid).uid := fun sid _ => by
    rw [sess_modify]; split
    · next hc => rw [hu, hc.1]
    · rfl
  refine .of_parts hI.lenL hI.lenR (TableOk.heap hI.liveOk hlen huid) (TableOk.heap hI.retOk hlen huid) fun sid hs => ?_
  rw [heap_length_modify] at hs
  rw [sess_modify]; split
  · next hc => exact hf _ (hI.sessOk hc.2)
  · exact hI.sessOk hs

/-- … in particular by a change of fields the invariant does not speak of (last contact, closed flag, queues) -/
theorem modify_inv_of_same {σ : Srv} (hI : Inv σ) (s : Nat) (f : Sess → Sess) (hu : ∀ x, (f x).uid = x.uid)
    (hf : ∀ x, (f x).frag = x.frag) : Inv (σ.modify s f) :=
  modify_inv hI s f hu fun x h => ⟨hf x ▸ h.frag, hu x ▸ h.uid⟩

theorem setTable_inv {σ : Srv} (hI : Inv σ) (t i : Nat) (v : Option Nat)
    (hv : ∀ s, v = some s → s < σ.heap.length ∧ (σ.sess s).uid = i) : Inv (σ.setTable t i v) := by
  unfold Srv.setTable
  split
  · exact .of_parts (by simp [hI.lenL]) hI.lenR (TableOk.set hI.liveOk i v hv) hI.retOk fun _ => hI.sessOk
  · exact .of_parts hI.lenL (by simp [hI.lenR]) hI.liveOk (TableOk.set hI.retOk i v hv) fun _ => hI.sessOk

/-- the fragment size a new session starts with is one the invariant allows -/
theorem gen_defaultFrag_ok : 1 ≤ SA.Gen.defaultDownstreamFragmentSize ∧
    SA.Gen.defaultDownstreamFragmentSize ≤ SA.Gen.maxDownstreamFragmentSize := by decide

theorem storeSlot_inv {σ : Srv} (hI : Inv σ) {i : Nat} (hi : i < SA.Gen.maxUsers) (a : Nat) : Inv (storeSlot σ i a) := by
  have hlen : σ.heap.length ≤ (storeSlot σ i a).heap.length := by rw [heap_length_storeSlot]; omega
  have huid : ∀ sid, sid < σ.heap.length → ((storeSlot σ i a).sess sid).uid = (σ.sess sid).uid := fun sid h => by
    rw [sess_storeSlot, if_neg (Nat.ne_of_lt h)]
  refine .of_parts (by simp [storeSlot, hI.lenL]) hI.lenR ((TableOk.heap hI.liveOk hlen huid).set i _ fun s hs => ?_)
    (TableOk.heap hI.retOk hlen huid) fun sid hs => ?_
  · cases hs
    exact ⟨by rw [heap_length_storeSlot]; omega, by rw [sess_storeSlot, if_pos rfl]⟩
  · rw [sess_storeSlot]
    split
    · exact ⟨gen_defaultFrag_ok, hi⟩
    · exact hI.sessOk (by rw [heap_length_storeSlot] at hs; omega)

/-! ### what an operation leaves alone -/

/-- `Frame P σ σ'`: no session object is deleted, and the objects (heap indices) in `P` are byte-for-byte the same and
    keep their live slot.  `P` is `(· ≠ s)` for an operation on the object `s`, everything for an open, the sessions of
    other addresses for a message. -/
structure Frame (P : Nat → Prop) (σ σ' : Srv) : Prop where
  heapLen : σ.heap.length ≤ σ'.heap.length
  sessEq : ∀ sid : Nat, sid < σ.heap.length → P sid → σ'.sess sid = σ.sess sid
  liveKeep : ∀ i sid : Nat, P sid → σ.live[i]? = some (some sid) → σ'.live[i]? = some (some sid)

theorem Frame.refl (P : Nat → Prop) (σ : Srv) : Frame P σ σ :=
  ⟨Nat.le_refl _, fun _ _ _ => rfl, fun _ _ _ h => h⟩

theorem Frame.trans {P : Nat → Prop} {σ σ' σ'' : Srv} (h1 : Frame P σ σ') (h2 : Frame P σ' σ'') : Frame P σ σ'' :=
  ⟨Nat.le_trans h1.heapLen h2.heapLen,
    fun sid hs hP => (h2.sessEq sid (Nat.lt_of_lt_of_le hs h1.heapLen) hP).trans (h1.sessEq sid hs hP),
    fun i sid hP h => h2.liveKeep i sid hP (h1.liveKeep i sid hP h)⟩

theorem Frame.mono {P Q : Nat → Prop} {σ σ' : Srv} (h : Frame P σ σ') (hQ : ∀ s, Q s → P s) : Frame Q σ σ' :=
  ⟨h.heapLen, fun sid hs hq => h.sessEq sid hs (hQ sid hq), fun i sid hq => h.liveKeep i sid (hQ sid hq)⟩

theorem Frame.foreign {σ σ' : Srv} {s addr : Nat} (h : Frame (· ≠ s) σ σ') (ho : (σ.sess s).owner = addr) :
    Frame (fun t => (σ.sess t).owner ≠ addr) σ σ' :=
  h.mono fun _ ht e => ht (e ▸ ho)

theorem modify_frame (σ : Srv) (s : Nat) (f : Sess → Sess) : Frame (· ≠ s) σ (σ.modify s f) :=
  ⟨Nat.le_of_eq (heap_length_modify σ s f).symm, fun t _ ht => by rw [sess_modify, if_neg fun c => ht c.1],
    fun _ _ _ h => h⟩

/-- setting a slot frames every object but the one the slot held -/
theorem setTable_frame {P : Nat → Prop} (σ : Srv) (t i : Nat) (v : Option Nat)
    (h : t = 0 → ∀ s, σ.live[i]? = some (some s) → ¬ P s) : Frame P σ (σ.setTable t i v) := by
  refine ⟨Nat.le_of_eq (congrArg _ (heap_setTable σ t i v)).symm, fun s _ _ => sess_setTable σ t i v s, fun j s hP hl => ?_⟩
  rw [live_setTable]
  split
  · next ht => rw [List.getElem?_set_ne (by rintro rfl; exact h ht s hl hP)]; exact hl
  · exact hl

theorem storeSlot_frame {P : Nat → Prop} (σ : Srv) {i : Nat} (h : σ.live[i]? = some none) (a : Nat) :
    Frame P σ (storeSlot σ i a) := by
  refine ⟨by rw [heap_length_storeSlot]; omega, fun sid hs _ => by rw [sess_storeSlot, if_neg (Nat.ne_of_lt hs)],
    fun j sid _ hl => ?_⟩
  rw [live_storeSlot, List.getElem?_set_ne (by rintro rfl; rw [h] at hl; cases hl)]
  exact hl

def touch (σ : Srv) (s : Nat) : Srv := σ.modify s (fun x => { x with last := σ.now })

/-- the four outcomes of validateAndGetUser -/
inductive VRes (σ : Srv) (uid addr : Nat) : Srv × Option Nat × VErr → Prop where
  | badUser : σ.live[uid]? = some none → VRes σ uid addr (σ, none, .badUser)
  | badConn (s : Nat) : σ.live[uid]? = some none → σ.retired[uid]? = some (some s) → (σ.sess s).owner = addr →
      VRes σ uid addr (σ, some s, .badConn)
  | badIp (s : Nat) : σ.live[uid]? = some (some s) → (σ.sess s).owner ≠ addr → VRes σ uid addr (σ, some s, .badIp)
  | ok (s : Nat) : σ.live[uid]? = some (some s) → (σ.sess s).owner = addr → VRes σ uid addr (touch σ s, some s, .ok)

theorem validate_eq (σ : Srv) (uid addr : Nat) : validate σ uid addr =
    match σ.live[uid]?, σ.retired[uid]? with
    | some (some s), _ => if (σ.sess s).owner = addr then ok (touch σ s, some s, .ok) else ok (σ, some s, .badIp)
    | some none, some (some r) => if (σ.sess r).owner = addr then ok (σ, some r, .badConn) else ok (σ, none, .badUser)
    | some none, some none => ok (σ, none, .badUser)
    | _, _ => panic := by
  unfold validate idxOpt
  cases hl : σ.live[uid]? with
  | none => rfl
  | some l =>
    cases l with
    | some s => by_cases ho : (σ.sess s).owner = addr <;> simp [ho, touch]
    | none =>
      simp only [Res.bind_ok]
      cases hr : σ.retired[uid]? with
      | none => rfl
      | some r => cases r with
        | none => rfl
        | some r => simp only [Res.bind_ok]; split <;> rfl

theorem validate_owner {σ : Srv} {uid addr sid : Nat} (hl : σ.live[uid]? = some (some sid)) (ho : (σ.sess sid).owner = addr) :
    validate σ uid addr = ok (touch σ sid, some sid, .ok) := by
  rw [validate_eq, hl]; exact if_pos ho

theorem validate_foreign {σ : Srv} {uid addr sid : Nat} (hl : σ.live[uid]? = some (some sid)) (ho : (σ.sess sid).owner ≠ addr) :
    validate σ uid addr = ok (σ, some sid, .badIp) := by
  rw [validate_eq, hl]; exact if_neg ho

theorem validate_vres {σ : Srv} {uid addr : Nat} {r : Srv × Option Nat × VErr}
    (h : validate σ uid addr = ok r) : VRes σ uid addr r := by
  rw [validate_eq] at h
  split at h
  · next hl =>
    split at h <;> cases h
    · exact .ok _ hl ‹_›
    · exact .badIp _ hl ‹_›
  · next hl hr =>
    split at h <;> cases h
    · exact .badConn _ hl hr ‹_›
    · exact .badUser hl
  · next hl _ => cases h; exact .badUser hl
  · cases h

theorem validate_no_panic {σ : Srv} {uid : Nat} (h1 : uid < σ.live.length) (h2 : uid < σ.retired.length) (addr : Nat) :
    ∃ r, validate σ uid addr = ok r := by
  rw [validate_eq, List.getElem?_eq_getElem h1, List.getElem?_eq_getElem h2]
  cases σ.live[uid] with
  | some s => exact Res.ite_no_panic ⟨_, rfl⟩ ⟨_, rfl⟩
  | none =>
    cases σ.retired[uid] with
    | some r => exact Res.ite_no_panic ⟨_, rfl⟩ ⟨_, rfl⟩
    | none => exact ⟨_, rfl⟩

theorem owner_touch (σ : Srv) (s t : Nat) : ((touch σ s).sess t).owner = (σ.sess t).owner := by
  unfold touch; rw [sess_modify]; split
  · next h => rw [h.1]
  · rfl

theorem touch_touch (σ : Srv) (s : Nat) : touch (touch σ s) s = touch σ s := by
  simp only [touch, Srv.modify, Srv.sess, List.getD_eq_getElem?_getD, List.set_set]
  by_cases h : s < σ.heap.length
  · simp [h]
  · simp [List.set_eq_of_length_le (Nat.le_of_not_lt h)]

/-- the handlers' own call of validateAndGetUser repeats `onMessage`'s, on the state that call left: it finds the same
    session and refreshes the same time -/
theorem validate_touch {σ : Srv} {uid addr s : Nat} (hl : σ.live[uid]? = some (some s)) (ho : (σ.sess s).owner = addr) :
    validate (touch σ s) uid addr = ok (touch σ s, some s, .ok) := by
  rw [validate_owner (σ := touch σ s) hl (by rw [owner_touch]; exact ho), touch_touch]

theorem touch_inv {σ : Srv} (hI : Inv σ) (s : Nat) : Inv (touch σ s) :=
  modify_inv_of_same hI s _ (fun _ => rfl) (fun _ => rfl)

/-- the state `validateAndGetUser` leaves for a caller at `addr`: the same, or a live session of `addr` touched -/
inductive Seen (addr : Nat) (σ : Srv) : Srv → Prop where
  | same : Seen addr σ σ
  | touched (uid s : Nat) : σ.live[uid]? = some (some s) → (σ.sess s).owner = addr → Seen addr σ (touch σ s)

theorem VRes.seen {σ : Srv} {uid addr : Nat} {r : Srv × Option Nat × VErr} (h : VRes σ uid addr r) : Seen addr σ r.1 := by
  cases h with
  | ok s hl ho => exact .touched uid s hl ho
  | _ => exact .same

theorem Seen.inv {addr : Nat} {σ σ1 : Srv} (h : Seen addr σ σ1) (hI : Inv σ) : Inv σ1 := by
  cases h with
  | same => exact hI
  | touched _ s _ _ => exact touch_inv hI s

theorem Seen.frame {addr : Nat} {σ σ1 : Srv} (h : Seen addr σ σ1) : Frame (fun t => (σ.sess t).owner ≠ addr) σ σ1 := by
  cases h with
  | same => exact .refl _ σ
  | touched _ s _ ho => exact (modify_frame σ s _).foreign ho

/-- `Seen` with the caller and the session forgotten: the same state, or some session's last-contact time refreshed.
    That is all the statement of `onMessage_version` lets out (enough for `Opened.of_touched`). -/
def Touched (σ σ1 : Srv) : Prop := σ1 = σ ∨ ∃ s, σ1 = touch σ s

theorem Seen.toTouched {addr : Nat} {σ σ1 : Srv} (h : Seen addr σ σ1) : Touched σ σ1 := by
  cases h with
  | same => exact .inl rfl
  | touched _ s _ _ => exact .inr ⟨s, rfl⟩

theorem firstFree_some : ∀ (l : List (Option Nat)) (i : Nat), firstFree l = some i →
    l[i]? = some none ∧ ∀ j, j < i → ∃ s, l[j]? = some (some s)
  | [], _, h => by simp [firstFree] at h
  | none :: _, i, h => by
    simp only [firstFree, Option.some.injEq] at h
    subst h
    exact ⟨rfl, fun _ hj => absurd hj (Nat.not_lt_zero _)⟩
  | some x :: r, i, h => by
    simp only [firstFree, Option.map_eq_some_iff] at h
    obtain ⟨i', hi', rfl⟩ := h
    obtain ⟨h1, h2⟩ := firstFree_some r i' hi'
    refine ⟨by simpa using h1, fun j hj => ?_⟩
    cases j with
    | zero => exact ⟨x, rfl⟩
    | succ j => simpa using h2 j (by omega)

/-- `newUser` is the two halves with nothing in between -/
theorem newUser_eq_find_store (σ : Srv) (a : Nat) :
    newUser σ a = match findSlot σ with
      | none => (σ, none)
      | some i => (storeSlot σ i a, some i) := by
  unfold newUser findSlot storeSlot
  cases firstFree σ.live <;> rfl

theorem newUser_cases {σ σ' : Srv} {addr : Nat} {u : Option Nat} (h : newUser σ addr = (σ', u)) :
    (σ' = σ ∧ u = none) ∨ ∃ i, u = some i ∧ firstFree σ.live = some i ∧ σ' = storeSlot σ i addr := by
  rw [newUser_eq_find_store, findSlot] at h
  cases hf : firstFree σ.live with
  | none => rw [hf] at h; cases h; exact .inl ⟨rfl, rfl⟩
  | some i => rw [hf] at h; cases h; exact .inr ⟨i, rfl, rfl, rfl⟩

theorem newUser_inv {σ σ' : Srv} {addr : Nat} {u : Option Nat} (hI : Inv σ) (h : newUser σ addr = (σ', u)) : Inv σ' := by
  rcases newUser_cases h with ⟨rfl, _⟩ | ⟨i, _, hf, rfl⟩
  · exact hI
  · exact storeSlot_inv hI (hI.lenL ▸ (List.getElem?_eq_some_iff.mp (firstFree_some _ _ hf).1).1) addr

theorem newUser_frame {P : Nat → Prop} {σ σ' : Srv} {addr : Nat} {u : Option Nat} (h : newUser σ addr = (σ', u)) :
    Frame P σ σ' := by
  rcases newUser_cases h with ⟨rfl, _⟩ | ⟨i, _, hf, rfl⟩
  · exact .refl P _
  · exact storeSlot_frame σ (firstFree_some _ _ hf).1 addr

/-- what a granted `newUser` did: slot `uid` was free and now holds a new session object of `addr` (heap index = the old
    heap size); no other live slot moved -/
structure Opened (σ σ' : Srv) (addr uid : Nat) : Prop where
  free : σ.live[uid]? = some none
  slot : σ'.live[uid]? = some (some σ.heap.length)
  heapLen : σ'.heap.length = σ.heap.length + 1
  sess : σ'.sess σ.heap.length = { uid := uid, owner := addr, last := σ.now }
  others : ∀ j, j ≠ uid → σ'.live[j]? = σ.live[j]?

theorem newUser_opens {σ σ' : Srv} {addr uid : Nat} (h : newUser σ addr = (σ', some uid)) : Opened σ σ' addr uid := by
  rcases newUser_cases h with ⟨_, hu⟩ | ⟨i, hu, hf, rfl⟩
  · cases hu
  · cases hu
    have hfree := (firstFree_some _ _ hf).1
    exact ⟨hfree, by rw [live_storeSlot, List.getElem?_set_self (List.getElem?_eq_some_iff.mp hfree).1],
      heap_length_storeSlot .., by rw [sess_storeSlot, if_pos rfl],
      fun j hj => by rw [live_storeSlot, List.getElem?_set_ne (Ne.symm hj)]⟩

/-- a refreshed last-contact time is nothing `Opened` speaks of -/
theorem Opened.of_touched {σ σ1 σ' : Srv} {addr uid : Nat} (ht : Touched σ σ1) (o : Opened σ1 σ' addr uid) :
    Opened σ σ' addr uid := by
  rcases ht with rfl | ⟨s, rfl⟩
  · exact o
  · have hh : (touch σ s).heap.length = σ.heap.length := heap_length_modify ..
    exact ⟨o.free, hh ▸ o.slot, hh ▸ o.heapLen, hh ▸ o.sess, o.others⟩

def withTables (σ : Srv) (l r : List (Option Nat)) : Srv := ⟨l, r, σ.heap, σ.now⟩

@[simp] theorem sess_withTables (σ : Srv) (l r : List (Option Nat)) (t : Nat) : (withTables σ l r).sess t = σ.sess t := rfl
@[simp] theorem heap_withTables (σ : Srv) (l r : List (Option Nat)) : (withTables σ l r).heap = σ.heap := rfl
@[simp] theorem live_withTables (σ : Srv) (l r : List (Option Nat)) : (withTables σ l r).live = l := rfl
@[simp] theorem retired_withTables (σ : Srv) (l r : List (Option Nat)) : (withTables σ l r).retired = r := rfl

/-- the state after closeConnection really retires the object `sid`: last-contact time refreshed (it validates first),
    live slot cleared, retired slot set, `closed := true` -/
def retire (σ : Srv) (sid : Nat) : Srv :=
  (((touch σ sid).setTable 0 (σ.sess sid).uid none).setTable 1 (σ.sess sid).uid (some sid)).modify sid
    fun s => { s with closed := true }

/-- closeConnection on the object that holds its own live slot retires it … -/
theorem close_live {σ : Srv} {sid : Nat} (hl : σ.live[(σ.sess sid).uid]? = some (some sid)) :
    closeConnection σ sid = ok (retire σ sid) := by
  simp only [closeConnection, idxOpt_some hl, validate_owner hl rfl, Res.bind_ok, ne_eq, not_true_eq_false, ite_false]
  rfl

/-- … and on any other object (retired long ago, its identifier re-used since) does nothing -/
theorem close_stale {σ : Srv} {sid : Nat} {c : Option Nat} (hl : σ.live[(σ.sess sid).uid]? = some c) (hc : c ≠ some sid) :
    closeConnection σ sid = ok σ := by
  simp only [closeConnection, idxOpt_some hl, Res.bind_ok, ne_eq, hc, not_false_eq_true, ite_true, Res.pure_eq]

/-- what closing the session object `sid` leaves: nothing changed (the object does not stand in its live slot), or the
    object retired -/
def Closed (σ : Srv) (sid : Nat) (σ' : Srv) : Prop :=
  σ' = σ ∨ (σ.live[(σ.sess sid).uid]? = some (some sid) ∧ σ' = retire σ sid)

theorem close_cases {σ σ' : Srv} {sid : Nat} (h : closeConnection σ sid = ok σ') : Closed σ sid σ' := by
  cases hl : σ.live[(σ.sess sid).uid]? with
  | none => simp only [closeConnection, idxOpt_none hl, Res.bind_panic, reduceCtorEq] at h
  | some c =>
    by_cases hc : c = some sid
    · subst hc; rw [close_live hl] at h; exact .inr ⟨hl, (Res.ok.inj h).symm⟩
    · rw [close_stale hl hc] at h; exact .inl (Res.ok.inj h).symm

theorem sess_retire (σ : Srv) (sid t : Nat) (h : t ≠ sid) : (retire σ sid).sess t = σ.sess t := by
  simp only [retire, touch, sess_modify, sess_setTable, h, false_and, ite_false]

theorem retire_inv {σ : Srv} (hI : Inv σ) {sid : Nat} (hl : σ.live[(σ.sess sid).uid]? = some (some sid)) : Inv (retire σ sid) := by
  refine modify_inv_of_same (setTable_inv (setTable_inv (touch_inv hI sid) 0 _ none nofun) 1 _ _ fun s hs => ?_) sid _
    (fun _ => rfl) (fun _ => rfl)
  cases hs
  rw [heap_setTable, sess_setTable]
  exact ⟨by simpa [touch, heap_length_modify] using (hI.liveOk _ _ hl).1, by simp only [touch, sess_modify]; split <;> rfl⟩

/-- the frames of the four state changes `retire` is made of -/
theorem retire_frame {σ : Srv} {sid : Nat} (hl : σ.live[(σ.sess sid).uid]? = some (some sid)) :
    Frame (· ≠ sid) σ (retire σ sid) :=
  (((modify_frame σ sid _).trans
    (setTable_frame _ 0 _ none fun _ _ hs hne => hne (Option.some.inj (Option.some.inj (hs.symm.trans hl))))).trans
    (setTable_frame _ 1 _ _ fun h => absurd h (by decide))).trans (modify_frame _ sid _)

theorem Closed.inv {σ σ' : Srv} {sid : Nat} (h : Closed σ sid σ') (hI : Inv σ) : Inv σ' := by
  rcases h with rfl | ⟨hl, rfl⟩
  · exact hI
  · exact retire_inv hI hl

theorem Closed.frame {σ σ' : Srv} {sid : Nat} (h : Closed σ sid σ') : Frame (· ≠ sid) σ σ' := by
  rcases h with rfl | ⟨hl, rfl⟩
  · exact .refl _ _
  · exact retire_frame hl

/-- the one index of `closeConnection`, `s.connections[u.UserId]`, is in range for an object that exists -/
theorem close_no_panic {σ : Srv} {sid : Nat} (hI : Inv σ) (hs : sid < σ.heap.length) : ∃ σ', closeConnection σ sid = ok σ' := by
  have hlt : (σ.sess sid).uid < σ.live.length := hI.lenL ▸ hI.uidOk sid hs
  have hl := List.getElem?_eq_getElem hlt
  by_cases hc : σ.live[(σ.sess sid).uid] = some sid
  · exact ⟨_, close_live (hc ▸ hl)⟩
  · exact ⟨_, close_stale hl hc⟩

/-- application-side Close(): closeConnection on an object that exists, nothing otherwise -/
theorem appClose_cases {σ σ' : Srv} {sid : Nat} (h : appClose σ sid = ok σ') : Closed σ sid σ' := by
  unfold appClose at h
  split at h
  · exact close_cases h
  · exact .inl (Res.ok.inj h).symm

theorem appClose_no_panic {σ : Srv} (hI : Inv σ) (sid : Nat) : ∃ σ', appClose σ sid = ok σ' := by
  unfold appClose
  split
  · exact close_no_panic hI ‹_›
  · exact ⟨σ, rfl⟩

theorem applyOptions_eq (s : Sess) (o : Options) : applyOptions s o =
    { s with up := o.up.getD s.up, down := o.down.getD s.down, frag := o.frag.getD s.frag,
             lazy := o.lazy.getD s.lazy, multi := o.multi.getD s.multi } := by
  rcases o with ⟨_ | _, _ | _, _, _ | _, _ | _, _ | _⟩ <;> rfl

theorem applyOptions_uid (s : Sess) (o : Options) : (applyOptions s o).uid = s.uid := by rw [applyOptions_eq]

theorem applyOptions_sessOk (s : Sess) (o : Options) (hb : badFrag o.frag = false) (h : SessOk s) : SessOk (applyOptions s o) := by
  rw [applyOptions_eq]
  refine ⟨?_, h.uid⟩
  cases hf : o.frag with
  | none => exact h.frag
  | some f =>
    rw [hf] at hb
    simp [badFrag] at hb
    exact ⟨by show 1 ≤ f; omega, by show f ≤ _; omega⟩

/-- what the pruning task preserves, from `σ0`: the invariant, every session object, the clock — and the live slots in
    `keep` (a set of slot numbers: the assignments go to the slot `u.UserId`, whatever it holds) -/
structure Keeps (keep : Nat → Prop) (σ0 σ : Srv) : Prop where
  inv : Inv σ
  sess : ∀ s, σ.sess s = σ0.sess s
  now : σ.now = σ0.now
  live : ∀ i, keep i → σ.live[i]? = σ0.live[i]?

theorem setTable_keeps {keep : Nat → Prop} {σ0 σ : Srv} (hK : Keeps keep σ0 σ) (t k : Nat) (v : Option Nat)
    (hv : ∀ s, v = some s → s < σ.heap.length ∧ (σ.sess s).uid = k) (hk : t = 0 → ¬ keep k) :
    Keeps keep σ0 (σ.setTable t k v) := by
  refine ⟨setTable_inv hK.inv t k v hv, fun s => by rw [sess_setTable, hK.sess], by rw [now_setTable, hK.now],
    fun i hi => ?_⟩
  rw [live_setTable, ← hK.live i hi]
  split
  · next ht => rw [List.getElem?_set_ne (fun (e : k = i) => hk ht (e ▸ hi))]
  · rfl

theorem applyAssigns_ind {sid : Nat} {P : Srv → Prop} : ∀ (as : List (Nat × Bool)) {σ : Srv},
    (∀ a ∈ as, ∀ τ, P τ → P (τ.setTable a.1 (τ.sess sid).uid (if a.2 then some sid else none))) → P σ →
    P (applyAssigns σ sid as)
  | [], _, _, h => h
  | (t, keep) :: r, σ, step, h =>
    applyAssigns_ind r (fun b hb => step b (List.mem_cons_of_mem _ hb)) (step (t, keep) (List.mem_cons_self ..) σ h)

theorem applyAssigns_keeps {keep : Nat → Prop} {σ0 σ : Srv} (hK : Keeps keep σ0 σ) {sid : Nat} (hs : sid < σ.heap.length)
    (as : List (Nat × Bool)) (hk : ∀ a ∈ as, a.1 = 0 → ¬ keep (σ.sess sid).uid) : Keeps keep σ0 (applyAssigns σ sid as) :=
  (applyAssigns_ind (P := fun τ => Keeps keep σ0 τ ∧ sid < τ.heap.length ∧ (τ.sess sid).uid = (σ.sess sid).uid) as
    (fun a ha τ ⟨h1, h2, h3⟩ =>
      ⟨setTable_keeps h1 _ _ _ (fun s hv => by split at hv <;> cases hv; exact ⟨h2, rfl⟩) (h3 ▸ hk a ha),
        by rw [heap_setTable]; exact h2, by rw [sess_setTable]; exact h3⟩)
    ⟨hK, hs, rfl⟩).1

theorem table_mem {σ : Srv} (hI : Inv σ) {t i sid : Nat} (h : (σ.table t).getD i none = some sid) :
    sid < σ.heap.length ∧ (σ.sess sid).uid = i := by
  have hT : TableOk σ (σ.table t) := by unfold Srv.table; split; exact hI.liveOk; exact hI.retOk
  rw [List.getD_eq_getElem?_getD] at h
  cases hg : (σ.table t)[i]? with
  | none => rw [hg] at h; cases h
  | some x => rw [hg] at h; exact hT i sid (hg.trans (congrArg some h))

/-- one iteration keeps what `Keeps` says, provided a stale session found in slot `j` is not assigned to a live slot
    that is to be kept -/
theorem expireAt_keeps {keep : Nat → Prop} {σ0 σ : Srv} (hK : Keeps keep σ0 σ) (loop : Nat × Nat × List (Nat × Bool)) (j : Nat)
    (hk : ∀ s, (σ.table loop.1).getD j none = some s → (σ.sess s).last + loop.2.1 < σ.now →
      ∀ a ∈ loop.2.2, a.1 = 0 → ¬ keep j) : Keeps keep σ0 (expireAt loop σ j) := by
  unfold expireAt
  split
  · exact hK
  · next s hg =>
    split
    · next hstale =>
      have hm := table_mem hK.inv hg
      exact applyAssigns_keeps hK hm.1 _ (hm.2.symm ▸ hk s hg hstale)
    · exact hK

/-- loops that cannot remove a fresh live session: a loop over the live table uses a timeout of at least `minT`; a
    loop over the retired table does not assign to the live table -/
def safeLoops (minT : Nat) (loops : List (Nat × Nat × List (Nat × Bool))) : Bool :=
  loops.all fun l => if l.1 = 0 then decide (minT ≤ l.2.1) else l.2.2.all (fun a => a.1 != 0)

theorem expireWith_ind {P : Srv → Prop} (loops : List (Nat × Nat × List (Nat × Bool))) {σ : Srv}
    (step : ∀ l ∈ loops, ∀ τ i, P τ → P (expireAt l τ i)) (h : P σ) : P (expireWith loops σ) :=
  foldl_induct (P := P) (Q := (· ∈ loops)) (fun hl hp => foldl_invariant (P := P) (fun h => step _ hl _ _ h) hp _) h loops
    fun _ h => h

/-- the pruning task keeps the invariant, every session object and the clock -/
theorem expireWith_same (loops : List (Nat × Nat × List (Nat × Bool))) {σ : Srv} (hI : Inv σ) :
    Keeps (fun _ => False) σ (expireWith loops σ) :=
  expireWith_ind (P := Keeps (fun _ => False) σ) loops
    (fun l _ _ j hK => expireAt_keeps hK l j fun _ _ _ _ _ _ => id) ⟨hI, fun _ => rfl, rfl, fun _ _ => rfl⟩

/-- … and, when the loops are safe, the live slot of every session heard within `minT`: a loop over the live table finds
    it fresh, a loop over the retired table does not assign to the live table -/
theorem expireWith_keeps {minT : Nat} {σ : Srv} (hI : Inv σ) (loops : List (Nat × Nat × List (Nat × Bool)))
    (hs : safeLoops minT loops = true) :
    Keeps (fun i => ∃ sid, σ.live[i]? = some (some sid) ∧ σ.now ≤ (σ.sess sid).last + minT) σ (expireWith loops σ) := by
  refine expireWith_ind (P := Keeps _ σ) loops (fun l hl' τ j hK => expireAt_keeps hK l j ?_)
    ⟨hI, fun _ => rfl, rfl, fun _ _ => rfl⟩
  rintro s hg hstale a ha ha0 ⟨sid, hl, hfresh⟩
  have hsafe := List.all_eq_true.mp hs l hl'
  by_cases ht : l.1 = 0
  · -- a loop over the live table: slot `j` holds the fresh session itself
    simp only [ht, ite_true, decide_eq_true_eq] at hsafe
    simp only [Srv.table, ht, ite_true, List.getD_eq_getElem?_getD, hK.live j ⟨sid, hl, hfresh⟩, hl, Option.getD_some,
      Option.some.injEq] at hg
    subst hg
    rw [hK.sess, hK.now] at hstale
    omega
  · simp only [ht, ite_false, List.all_eq_true, bne_iff_ne] at hsafe
    exact hsafe a ha ha0

end SA.DnsServer
