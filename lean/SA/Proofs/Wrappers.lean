/-
  The wrapper trees of SA.Model.Wrappers (C19).  Everything about `closedQG`/`closeG`/… is proved for the connective
  `true` (`&&`); SA.Props.C19 transfers it to the model of the code through the regenerated fact
  `SA.Gen.c19PairClosedAnd` (definitional unfolding — it stops type-checking when the fact changes).

  Paths are taken one step at a time: `child`/`plug` are the one-step cases of `sub`/`closeAtG`, every
  predicate has a lemma for one step down, and a statement about a path follows by `sub_induction`.
-/
import SA.Model.Wrappers
import SA.Proofs.Run
namespace SA.Wrappers

/-- the object one step down (`false` = the only / the reader child, `true` = the writer child of a pair) -/
def child : W → Bool → Option W
  | .safe _ _ i, false => some i
  | .deleg i, false => some i
  | .pair r _, false => some r
  | .pair _ w, true => some w
  | _, _ => none

/-- the same node with that child replaced -/
def plug : W → Bool → W → W
  | .safe k f _, false, c => .safe k f c
  | .deleg _, false, c => .deleg c
  | .pair _ w, false, c => .pair c w
  | .pair r _, true, c => .pair r c
  | w, _, _ => w

theorem sub_nil (w : W) : sub w [] = some w := by cases w <;> rfl

theorem sub_cons (w : W) (b : Bool) (p : Path) : sub w (b :: p) = (child w b).bind (sub · p) := by
  cases w <;> cases b <;> rfl

theorem closeAtG_nil (cj : Bool) (w : W) : closeAtG cj w [] = closeG cj w := by cases w <;> rfl

theorem closeAtG_cons (cj : Bool) {w c : W} {b : Bool} (h : child w b = some c) (p : Path) :
    closeAtG cj w (b :: p) = (plug w b (closeAtG cj c p).1, (closeAtG cj c p).2) := by
  cases w <;> cases b <;> cases h <;> rfl

theorem closeAtG_none (cj : Bool) {w : W} {b : Bool} (h : child w b = none) (p : Path) :
    closeAtG cj w (b :: p) = (w, true) := by
  cases w <;> cases b <;> first | rfl | cases h

theorem child_plug {w c : W} {b : Bool} (h : child w b = some c) (c' : W) : child (plug w b c') b = some c' := by
  cases w <;> cases b <;> cases h <;> rfl

theorem child_plug_ne {w : W} {a b : Bool} (h : a ≠ b) (c' : W) : child (plug w a c') b = child w b := by
  cases w <;> cases a <;> cases b <;> first | exact absurd rfl h | rfl

theorem plug_child {w c : W} {b : Bool} (hc : child w b = some c) : plug w b c = w := by
  cases w <;> cases b <;> cases hc <;> rfl

theorem child_not_res {w c : W} {b : Bool} (hc : child w b = some c) : isRes w = false := by
  cases w with
  | res => cases b <;> cases hc
  | _ => rfl

/-- a statement about the object at a path: true at the object itself, and carried one step up -/
theorem sub_induction {motive : W → Path → Prop} {t : W} (nil : motive t [])
    (cons : ∀ {w c : W} {b : Bool} {p : Path}, child w b = some c → sub c p = some t → motive c p → motive w (b :: p))
    {w : W} {p : Path} (hs : sub w p = some t) : motive w p := by
  induction p generalizing w with
  | nil => rw [sub_nil] at hs; cases hs; exact nil
  | cons b p ih =>
    rw [sub_cons] at hs
    cases hc : child w b with
    | none => simp [hc] at hs
    | some c => rw [hc] at hs; exact cons hc hs (ih hs)

/-- every flag false, every count 0 -/
def Fresh : W → Prop
  | .res _ _ _ c => c = 0
  | .safe _ flag i => flag = false ∧ Fresh i
  | .deleg i => Fresh i
  | .pair r w => Fresh r ∧ Fresh w

/-- every flag true, every count 1 -/
def Done : W → Prop
  | .res _ _ _ c => c = 1
  | .safe _ flag i => flag = true ∧ Done i
  | .deleg i => Done i
  | .pair r w => Done r ∧ Done w

/-- "if it is a bare resource, it has not been closed" -/
def cnt0 : W → Prop
  | .res _ _ _ c => c = 0
  | _ => True

/-- the invariant of every reachable state.  Shape: below a delegating wrapper and in both halves of a pair sits a
    wrapper, never a bare resource (the constructors put a Safe* object there; a bare resource without `Closed()`
    would be closed again by every `LogClose`).  State: no count above 1; a set flag means the whole subtree is
    closed; a bare resource under a wrapper whose flag is not set has not been closed -/
inductive Inv : W → Prop
  | res {id h f c} (le : c ≤ 1) : Inv (.res id h f c)
  | safe {k fl i} (inner : Inv i) (done : fl = true → Done i) (unclosed : fl = false → cnt0 i) : Inv (.safe k fl i)
  | deleg {i} (inner : Inv i) (wrapper : isRes i = false) : Inv (.deleg i)
  | pair {r w} (reader : Inv r) (rWrapper : isRes r = false) (writer : Inv w) (wWrapper : isRes w = false) :
      Inv (.pair r w)

/-- same shape, flags only get set, counts only grow -/
inductive Le : W → W → Prop
  | res {id h f c c'} : c ≤ c' → Le (.res id h f c) (.res id h f c')
  | safe {k fl fl' i i'} : (fl = true → fl' = true) → Le i i' → Le (.safe k fl i) (.safe k fl' i')
  | deleg {i i'} : Le i i' → Le (.deleg i) (.deleg i')
  | pair {r r' w w'} : Le r r' → Le w w' → Le (.pair r w) (.pair r' w')

theorem cnt0_of_not_res {w : W} (h : isRes w = false) : cnt0 w := by
  cases w with
  | res => cases h
  | _ => trivial

theorem fresh_child {w c : W} {d : Bool} (h : Fresh w) (hc : child w d = some c) : Fresh c := by
  cases w <;> cases d <;> cases hc
  · exact h.2     -- safe
  · exact h       -- deleg
  · exact h.1     -- pair, reader
  · exact h.2     -- pair, writer

theorem done_child {w c : W} {d : Bool} (h : Done w) (hc : child w d = some c) : Done c := by
  cases w <;> cases d <;> cases hc
  · exact h.2     -- safe
  · exact h       -- deleg
  · exact h.1     -- pair, reader
  · exact h.2     -- pair, writer

theorem inv_child {w c : W} {d : Bool} (h : Inv w) (hc : child w d = some c) : Inv c := by
  cases h <;> cases d <;> cases hc <;> assumption

theorem le_child {w w' c : W} {d : Bool} (h : Le w w') (hc : child w d = some c) :
    ∃ c', child w' d = some c' ∧ Le c c' := by
  cases h <;> cases d <;> cases hc <;> exact ⟨_, rfl, ‹_›⟩

theorem le_refl (w : W) : Le w w := by
  induction w with
  | res => exact .res (Nat.le_refl _)
  | safe k fl i ih => exact .safe id ih
  | deleg i ih => exact .deleg ih
  | pair r w ihr ihw => exact .pair ihr ihw

theorem le_trans {a b c : W} (h1 : Le a b) (h2 : Le b c) : Le a c := by
  induction h1 generalizing c with
  | res h => cases h2 with | res h' => exact .res (Nat.le_trans h h')
  | safe hf _ ih => cases h2 with | safe hf' h' => exact .safe (hf' ∘ hf) (ih h')
  | deleg _ ih => cases h2 with | deleg h' => exact .deleg (ih h')
  | pair _ _ ihr ihw => cases h2 with | pair hr hw => exact .pair (ihr hr) (ihw hw)

theorem le_plug {w c c' : W} {d : Bool} (hc : child w d = some c) (h : Le c c') : Le w (plug w d c') := by
  cases w <;> cases d <;> cases hc
  · exact .safe id h
  · exact .deleg h
  · exact .pair h (le_refl _)
  · exact .pair (le_refl _) h

theorem le_isRes {w w' : W} (h : Le w w') : isRes w' = isRes w := by
  cases h <;> rfl

/-- **`Closed()` is exact**: an object of a reachable state reports closed iff its whole subtree is closed — every
    resource once.  (`⇒` is what fails with `||`.) -/
theorem closedQ_iff_done {w : W} (hi : Inv w) (h0 : cnt0 w) : closedQG true w = some true ↔ Done w := by
  induction hi with
  | @res id h f c _ =>
    have : c = 0 := h0
    subst this
    cases h <;> simp [closedQG, Done]
  | safe _ done _ _ => simpa [closedQG, Done] using done
  | deleg _ hn ih => exact ih (cnt0_of_not_res hn)
  | pair _ hnr _ hnw ihr ihw => simp [closedQG, Done, ihr (cnt0_of_not_res hnr), ihw (cnt0_of_not_res hnw)]

theorem done_close {w : W} (hi : Inv w) (hn : isRes w = false) (hd : Done w) : closeG true w = (w, true) := by
  induction hi with
  | res => cases hn
  | safe => simp [closeG, hd.1]
  | deleg _ hni ih => simp [closeG, ih hni hd]
  | pair hr hnr hw hnw =>
    simp [closeG, (closedQ_iff_done hr (cnt0_of_not_res hnr)).mpr hd.1, (closedQ_iff_done hw (cnt0_of_not_res hnw)).mpr hd.2]

/-- `LogClose` (pipes.go), which the Safe* objects and the pair apply to what they hold: an object that reports closed is
    skipped, any other is closed -/
def logClose (cj : Bool) (w : W) : W × Bool := if closedQG cj w = some true then (w, true) else closeG cj w

theorem closeG_safe (cj : Bool) (k : Kind) (i : W) :
    closeG cj (.safe k false i) = (.safe k true (logClose cj i).1, (logClose cj i).2) := by
  simp only [closeG, logClose, Bool.false_eq_true, if_false]
  split <;> rfl

theorem closeG_pair (cj : Bool) (r w : W) :
    closeG cj (.pair r w) = (.pair (logClose cj r).1 (logClose cj w).1, (logClose cj r).2 && (logClose cj w).2) := rfl

theorem logClose_le {cj : Bool} {w : W} (h : Le w (closeG cj w).1) : Le w (logClose cj w).1 := by
  unfold logClose
  split
  · exact le_refl w
  · exact h

theorem close_le (cj : Bool) (w : W) : Le w (closeG cj w).1 := by
  induction w with
  | res => exact .res (Nat.le_succ _)
  | safe k fl i ih =>
    cases fl
    · rw [closeG_safe]; exact .safe (fun _ => rfl) (logClose_le ih)
    · exact le_refl _
  | deleg i ih => exact .deleg ih
  | pair r w ihr ihw => rw [closeG_pair]; exact .pair (logClose_le ihr) (logClose_le ihw)

theorem isRes_close (cj : Bool) (w : W) : isRes (closeG cj w).1 = isRes w := le_isRes (close_le cj w)

theorem isRes_logClose (cj : Bool) (w : W) : isRes (logClose cj w).1 = isRes w :=
  le_isRes (logClose_le (close_le cj w))

/-- `LogClose` leaves the object closed (and the invariant intact), given that `Close` does -/
theorem logClose_done {w : W} (hi : Inv w) (h0 : cnt0 w) (ih : Done (closeG true w).1 ∧ Inv (closeG true w).1) :
    Done (logClose true w).1 ∧ Inv (logClose true w).1 := by
  unfold logClose
  split
  · exact ⟨(closedQ_iff_done hi h0).mp ‹_›, hi⟩
  · exact ih

/-- `Close` leaves the object closed, and the invariant intact -/
theorem close_done {w : W} (hi : Inv w) (h0 : cnt0 w) :
    Done (closeG true w).1 ∧ Inv (closeG true w).1 := by
  induction hi with
  | @res id h f c _ =>
    have : c = 0 := h0
    subst this
    exact ⟨rfl, .res (Nat.le_refl 1)⟩
  | @safe k fl i hi done unclosed ih =>
    cases fl with
    | true => exact ⟨⟨rfl, done rfl⟩, .safe hi done unclosed⟩
    | false =>
      have hr := logClose_done hi (unclosed rfl) (ih (unclosed rfl))
      rw [closeG_safe]
      exact ⟨⟨rfl, hr.1⟩, .safe hr.2 (fun _ => hr.1) nofun⟩
  | @deleg i _ hn ih =>
    have hr := ih (cnt0_of_not_res hn)
    exact ⟨hr.1, .deleg hr.2 ((isRes_close true i).trans hn)⟩
  | @pair r w hir hnr hiw hnw ihr ihw =>
    have hr := logClose_done hir (cnt0_of_not_res hnr) (ihr (cnt0_of_not_res hnr))
    have hw := logClose_done hiw (cnt0_of_not_res hnw) (ihw (cnt0_of_not_res hnw))
    rw [closeG_pair]
    exact ⟨⟨hr.1, hw.1⟩, .pair hr.2 ((isRes_logClose true r).trans hnr) hw.2 ((isRes_logClose true w).trans hnw)⟩

theorem closeAt_le (cj : Bool) (w : W) (p : Path) : Le w (closeAtG cj w p).1 := by
  induction p generalizing w with
  | nil => rw [closeAtG_nil]; exact close_le cj w
  | cons b p ih =>
    cases hc : child w b with
    | none => rw [closeAtG_none cj hc]; exact le_refl w
    | some c => rw [closeAtG_cons cj hc]; exact le_plug hc (ih c)

theorem done_le {t t' : W} (hd : Done t) (h : Le t t') (hi : Inv t') : Done t' := by
  induction h with
  | res h =>
    have h1 : _ = 1 := hd
    cases hi with | res h3 => exact Nat.le_antisymm h3 (h1 ▸ h)
  | safe hf _ ih => cases hi with | safe hi => exact ⟨hf hd.1, ih hd.2 hi⟩
  | deleg _ ih => cases hi with | deleg hi => exact ih hd hi
  | pair _ _ ihr ihw => cases hi with | pair hr _ hw => exact ⟨ihr hd.1 hr, ihw hd.2 hw⟩

theorem wrapperAt_iff {w : W} {p : Path} :
    wrapperAt w p = true ↔ ∃ t, sub w p = some t ∧ isRes t = false := by
  unfold wrapperAt
  cases sub w p <;> simp

theorem le_sub {w w' t : W} {p : Path} (h : Le w w') (hs : sub w p = some t) :
    ∃ t', sub w' p = some t' ∧ Le t t' :=
  sub_induction (motive := fun w p => ∀ w', Le w w' → ∃ t', sub w' p = some t' ∧ Le t t')
    (fun w' h => ⟨w', sub_nil w', h⟩)
    (fun hc _ ih w' h => by
      obtain ⟨c', hc', hl⟩ := le_child h hc
      rw [sub_cons, hc']; exact ih c' hl) hs w' h

theorem sub_down {Q : W → Prop} (down : ∀ {w c b}, Q w → child w b = some c → Q c) {w t : W} {p : Path} (hq : Q w)
    (hs : sub w p = some t) : Q t :=
  sub_induction (motive := fun w _ => Q w → Q t) id (fun hc _ ih hq => ih (down hq hc)) hs hq

theorem inv_sub {w t : W} {p : Path} (hi : Inv w) (hs : sub w p = some t) : Inv t := sub_down inv_child hi hs

theorem closeAt_fix (cj : Bool) {w t : W} {p : Path} (hs : sub w p = some t)
    (hc : closeG cj t = (t, true)) : closeAtG cj w p = (w, true) :=
  sub_induction (motive := fun w p => closeAtG cj w p = (w, true)) (by rw [closeAtG_nil, hc])
    (fun hch _ ih => by rw [closeAtG_cons cj hch, ih, plug_child hch]) hs

theorem plug_inv {w c c' : W} {b : Bool} (hi : Inv w) (hc : child w b = some c) (hn : isRes c = false)
    (hl : Le c c') (hi' : Inv c') : Inv (plug w b c') := by
  have hn' : isRes c' = false := (le_isRes hl).trans hn
  cases hi <;> cases b <;> cases hc
  case safe done _ => exact .safe hi' (fun e => done_le (done e) hl hi') fun _ => cnt0_of_not_res hn'
  case deleg => exact .deleg hi' hn'
  case pair.false hw hnw _ _ => exact .pair hi' hn' hw hnw
  case pair.true hr hnr _ _ => exact .pair hr hnr hi' hn'

/-- the object at `p` is a wrapper whose whole subtree is closed -/
def DoneAt (w : W) (p : Path) : Prop := ∃ t, sub w p = some t ∧ Done t ∧ isRes t = false

/-- closing at a path keeps the invariant of the whole tree and leaves the addressed subtree closed -/
theorem closeAt_inv {w t : W} {p : Path} (hi : Inv w) (hs : sub w p = some t) (hn : isRes t = false) :
    Inv (closeAtG true w p).1 ∧ DoneAt (closeAtG true w p).1 p :=
  sub_induction
    (motive := fun w p => Inv w → isRes w = false ∧ Inv (closeAtG true w p).1 ∧ DoneAt (closeAtG true w p).1 p)
    (fun hi => by
      have := close_done hi (cnt0_of_not_res hn)
      rw [closeAtG_nil]
      exact ⟨hn, this.2, _, sub_nil _, this.1, (isRes_close true t).trans hn⟩)
    (fun {w c b p} hc _ ih hi => by
      obtain ⟨hnc, hic, h⟩ := ih (inv_child hi hc)
      rw [closeAtG_cons true hc, DoneAt, sub_cons, child_plug hc]
      exact ⟨child_not_res hc, plug_inv hi hc hnc (closeAt_le true c p) hic, h⟩)
    hs hi |>.2

theorem DoneAt.le {w w' : W} {p : Path} (h : DoneAt w p) (hl : Le w w') (hi : Inv w') : DoneAt w' p := by
  obtain ⟨t, hs, hd, hn⟩ := h
  obtain ⟨t', hs', hl'⟩ := le_sub hl hs
  exact ⟨t', hs', done_le hd hl' (inv_sub hi hs'), (le_isRes hl').trans hn⟩

/-- what a hereditary predicate says about bare resources it says about every count -/
theorem counts_of {Q : W → Prop} {P : Nat → Prop} (leaf : ∀ {id h f c}, Q (.res id h f c) → P c)
    (down : ∀ {w c b}, Q w → child w b = some c → Q c) {w : W} (hq : Q w) : ∀ c ∈ counts w, P c := by
  induction w with
  | res id h f c => intro x hx; simp only [counts, List.mem_singleton] at hx; exact hx ▸ leaf hq
  | safe k flag i ih => exact ih (down (b := false) hq rfl)
  | deleg i ih => exact ih (down (b := false) hq rfl)
  | pair r w ihr ihw =>
    intro x hx
    simp only [counts, List.mem_append] at hx
    exact hx.elim (ihr (down (b := false) hq rfl) x) (ihw (down (b := true) hq rfl) x)

theorem fresh_counts {w : W} (h : Fresh w) : ∀ c ∈ counts w, c = 0 :=
  counts_of (Q := Fresh) (P := (· = 0)) id fresh_child h

theorem done_counts {w : W} (h : Done w) : ∀ c ∈ counts w, c = 1 :=
  counts_of (Q := Done) (P := (· = 1)) id done_child h

theorem inv_counts {w : W} (hi : Inv w) : ∀ c ∈ counts w, c ≤ 1 :=
  counts_of (Q := Inv) (P := (· ≤ 1)) (fun | .res le => le) inv_child hi

/-- `NewSafeX` wraps its argument in a fresh Safe* object, or returns it as it is -/
theorem mkSafe_cases (k : Kind) (w : W) : mkSafe k w = .safe k false w ∨ (mkSafe k w = w ∧ isRes w = false) := by
  cases w with
  | safe k' f i =>
    simp only [mkSafe, mkSafeP]
    split
    · exact Or.inr ⟨rfl, rfl⟩
    · exact Or.inl rfl
  | _ => exact Or.inl rfl

theorem mkSafe_fresh {k : Kind} {w : W} (hf : Fresh w) : Fresh (mkSafe k w) := by
  rcases mkSafe_cases k w with e | e
  · rw [e]; exact ⟨rfl, hf⟩
  · rw [e.1]; exact hf

theorem mkSafe_inv {k : Kind} {w : W} (hf : Fresh w) (hi : Inv w) : Inv (mkSafe k w) ∧ isRes (mkSafe k w) = false := by
  rcases mkSafe_cases k w with e | e
  · rw [e]; exact ⟨.safe hi nofun fun _ => by cases w with | res => exact hf | _ => trivial, rfl⟩
  · rw [e.1]; exact ⟨hi, e.2⟩

theorem build_fresh (d : Desc) : Fresh (build d) := by
  induction d with
  | res => rfl
  | pair r w ihr ihw => exact ⟨mkSafe_fresh ihr, mkSafe_fresh ihw⟩
  | _ => rename_i ih; exact mkSafe_fresh ih

theorem build_inv (d : Desc) : Inv (build d) := by
  induction d with
  | res => exact .res (Nat.zero_le 1)
  | safe k d ih => exact (mkSafe_inv (build_fresh d) ih).1
  | pair r w ihr ihw =>
    exact (mkSafe_inv (build_fresh r) ihr).elim fun hr hnr => (mkSafe_inv (build_fresh w) ihw).elim (.pair hr hnr)
  | _ => rename_i d ih; exact (mkSafe_inv (build_fresh d) ih).elim .deleg

theorem build_not_res (d : Desc) (hw : d.isWrapper = true) : isRes (build d) = false := by
  cases d with
  | res => cases hw
  | safe k d => exact (mkSafe_inv (build_fresh d) (build_inv d)).2
  | _ => rfl

/-- `q` is a prefix of `f` -/
def pre : Path → Path → Bool
  | [], _ => true
  | _ :: _, [] => false
  | a :: q, b :: f => a == b && pre q f

/-- the closed flag of the Safe* object at a path -/
def flagAt (w : W) (f : Path) : Option Bool :=
  match sub w f with
  | some (.safe _ fl _) => some fl
  | _ => none

/-- the Safe* objects (relative paths) whose flags make up an object's status: a Safe* object
    itself, the embedded one of a delegating wrapper, both halves of a pair -/
def deps : W → List Path
  | .res .. => []
  | .safe .. => [[]]
  | .deleg i => (deps i).map (false :: ·)
  | .pair r w => (deps r).map (false :: ·) ++ (deps w).map (true :: ·)

theorem flagAt_cons (w : W) (b : Bool) (f : Path) : flagAt w (b :: f) = (child w b).bind (flagAt · f) := by
  simp only [flagAt, sub_cons]
  cases child w b <;> rfl

theorem flagAt_plug_nil (w : W) (b : Bool) (c : W) : flagAt (plug w b c) [] = flagAt w [] := by
  cases w <;> cases b <;> rfl

theorem closeAt_flag (cj : Bool) (w : W) (q f : Path) (h : pre q f = false) :
    flagAt (closeAtG cj w q).1 f = flagAt w f := by
  induction q generalizing w f with
  | nil => cases h
  | cons a q ih =>
    cases hc : child w a with
    | none => rw [closeAtG_none cj hc]
    | some c =>
      rw [closeAtG_cons cj hc]
      cases f with
      | nil => exact flagAt_plug_nil ..
      | cons b f =>
        rw [flagAt_cons, flagAt_cons]
        by_cases hab : a = b
        · subst hab
          rw [child_plug hc, hc]
          exact ih c f (by simpa [pre] using h)
        · rw [child_plug_ne hab]

theorem flagAt_append {w t : W} {p : Path} (hs : sub w p = some t) (f : Path) :
    flagAt w (p ++ f) = flagAt t f :=
  sub_induction (motive := fun w p => flagAt w (p ++ f) = flagAt t f) rfl
    (fun hc _ ih => by rw [List.cons_append, flagAt_cons, hc]; exact ih) hs

theorem fresh_flagAt {w : W} (h : Fresh w) {f : Path} {fl : Bool} (hf : flagAt w f = some fl) : fl = false := by
  unfold flagAt at hf
  split at hf
  · rename_i k fl' i hs
    cases hf
    exact (sub_down fresh_child h hs).1
  · cases hf

/-- each of the flags that make up an object's status is the flag of a Safe* object, and while it is not set `Closed()`
    answers false -/
theorem deps_status {t : W} {f : Path} (hf : f ∈ deps t) :
    ∃ fl, flagAt t f = some fl ∧ (fl = false → closedQG true t = some false) := by
  induction t generalizing f with
  | res => simp [deps] at hf
  | safe k fl i _ =>
    simp [deps] at hf; subst hf
    exact ⟨fl, rfl, fun h => by simp [closedQG, h]⟩
  | deleg i ih =>
    simp [deps] at hf
    obtain ⟨g, hg, rfl⟩ := hf
    simpa [flagAt_cons, child, closedQG] using ih hg
  | pair r w ihr ihw =>
    simp [deps] at hf
    rcases hf with ⟨g, hg, rfl⟩ | ⟨g, hg, rfl⟩
    · obtain ⟨fl, h1, h2⟩ := ihr hg
      exact ⟨fl, by simpa [flagAt_cons, child] using h1, fun h => by simp [closedQG, h2 h]⟩
    · obtain ⟨fl, h1, h2⟩ := ihw hg
      exact ⟨fl, by simpa [flagAt_cons, child] using h1, fun h => by simp [closedQG, h2 h]⟩

theorem deps_ne_nil {t : W} (hi : Inv t) (hn : isRes t = false) : deps t ≠ [] := by
  induction hi with
  | res => cases hn
  | safe => simp [deps]
  | deleg _ hni ih => simpa [deps] using ih hni
  | pair _ hnr _ _ ihr => simp [deps, ihr hnr]

theorem le_wrapperAt {w w' : W} (h : Le w w') {p : Path} (hv : wrapperAt w p = true) :
    wrapperAt w' p = true := by
  obtain ⟨t, hs, hn⟩ := wrapperAt_iff.mp hv
  obtain ⟨t', hs', hl⟩ := le_sub h hs
  exact wrapperAt_iff.mpr ⟨t', hs', (le_isRes hl).trans hn⟩

theorem step_fst (cj : Bool) (w : W) (p : Path) (op : Op) :
    (stepAtG cj w p op).1 = if op = .close then (closeAtG cj w p).1 else w := by
  cases op <;> rfl

theorem step_le (cj : Bool) (w : W) (p : Path) (op : Op) : Le w (stepAtG cj w p op).1 := by
  rw [step_fst]
  split
  · exact closeAt_le cj w p
  · exact le_refl w

theorem step_inv {w : W} (hi : Inv w) {p : Path} (hv : wrapperAt w p = true) (op : Op) :
    Inv (stepAtG true w p op).1 := by
  obtain ⟨t, hs, hn⟩ := wrapperAt_iff.mp hv
  rw [step_fst]
  split
  · exact (closeAt_inv hi hs hn).1
  · exact hi

theorem runP_fst (cj : Bool) (w : W) (ops : List (Path × Op)) :
    (runPG cj w ops).1 = ops.foldl (fun w o => (stepAtG cj w o.1 o.2).1) w := by
  induction ops generalizing w with
  | nil => rfl
  | cons o ops ih => exact ih _

theorem runP_le (cj : Bool) (w : W) (ops : List (Path × Op)) : Le w (runPG cj w ops).1 := by
  rw [runP_fst]
  exact foldl_invariant (P := Le w) (fun h => le_trans h (step_le ..)) (le_refl w) ops

/-- ops on wrapper objects keep the invariant (an object that is a wrapper at the start stays one: `Le`) -/
theorem runP_inv {w : W} (hi : Inv w) (ops : List (Path × Op)) (hv : ∀ o ∈ ops, wrapperAt w o.1 = true) :
    Inv (runPG true w ops).1 := by
  rw [runP_fst]
  exact (foldl_induct (P := fun w' => Inv w' ∧ Le w w') (Q := fun o => wrapperAt w o.1 = true)
    (fun hq h => ⟨step_inv h.1 (le_wrapperAt h.2 hq) _, le_trans h.2 (step_le ..)⟩) ⟨hi, le_refl w⟩ ops hv).1

theorem runP_append (cj : Bool) (w : W) (a b : List (Path × Op)) :
    runPG cj w (a ++ b) = ((runPG cj (runPG cj w a).1 b).1, (runPG cj w a).2 ++ (runPG cj (runPG cj w a).1 b).2) := by
  induction a generalizing w with
  | nil => rfl
  | cons op a ih => simp [runPG, ih]

theorem runP_flag (cj : Bool) (w : W) (ops : List (Path × Op)) (f : Path)
    (h : ∀ o ∈ ops, o.2 = Op.close → pre o.1 f = false) :
    flagAt (runPG cj w ops).1 f = flagAt w f := by
  rw [runP_fst]
  refine foldl_induct (P := fun w' => flagAt w' f = flagAt w f) (fun {w' o} hq hw' => ?_) rfl ops h
  rw [step_fst, ← hw']
  split
  · exact closeAt_flag cj w' o.1 f (hq ‹_›)
  · rfl

theorem runP_noclose (cj : Bool) (w : W) (ops : List (Path × Op)) (hn : ∀ o ∈ ops, o.2 ≠ Op.close) :
    (runPG cj w ops).1 = w := by
  rw [runP_fst]
  exact foldl_induct (P := (· = w)) (fun {w' o} hq hw' => by rw [step_fst, if_neg hq, hw']) rfl ops hn

end SA.Wrappers
