/-
  The SOCKS channel of SA.Model.Socks (C17).  A state in which nothing can move is one where no guard of `sstep` holds
  (`quiescent_guards`, `Quiet`).  When the connection handed to the SOCKS server can half-close and the application does not
  leave, every byte of the target is delivered or still to come, and the channel's side is closed only after it has seen
  end-of-stream (`TInv`).
-/
import SA.Model.Socks
import SA.Proofs.Run
namespace SA.Socks

theorem srun_skipRun (cw : Bool) : SkipRun (sstep cw) (srun cw) :=
  ⟨fun _ => rfl, fun s a as => by rw [srun]; cases sstep cw s a <;> rfl⟩

/-- nothing more can happen: the guard of no action holds (the optional `appClose` apart) -/
structure Quiet (s : SSt) : Prop where
  write : ¬ (0 < s.toDeliver ∧ s.tgtFin = false ∧ s.downDone = false)
  tgtClose : ¬ (s.toDeliver = 0 ∧ s.tgtFin = false)
  downEnd : ¬ (s.downDone = false ∧ ((s.tgtFin = true ∧ s.toDeliver = 0) ∨ s.chanClosed = true))
  pipeClose : ¬ (s.eofDown = true ∧ s.chanClosed = false)
  upEnd : ¬ (s.chanClosed = true ∧ s.upDone = false)
  ret : ¬ (s.downDone = true ∧ s.upDone = true ∧ s.served = false)

theorem quiescent_guards {cw : Bool} {s : SSt} (hq : quiescent cw s = true) : Quiet s := by
  simp only [quiescent, List.all_cons, List.all_nil, Bool.and_true, Bool.and_eq_true, Option.isNone_iff_eq_none, sstep,
    ite_eq_right_iff] at hq
  obtain ⟨h1, h2, h3, h4, h5, h6⟩ := hq
  refine ⟨fun g => ?_, (nomatch h2 ·), (nomatch h3 ·), (nomatch h4 ·), (nomatch h5 ·), (nomatch h6 ·)⟩
  -- `write` has two outcomes behind its guard
  have := h1 g
  split at this <;> cases this

theorem writes_run (cw : Bool) (s : SSt) (h1 : s.tgtFin = false) (h2 : s.downDone = false) (h3 : s.chanClosed = false) :
    srun cw s (List.replicate s.toDeliver .write) = { s with toDeliver := 0, delivered := s.delivered + s.toDeliver } := by
  generalize hk : s.toDeliver = k
  induction k generalizing s with
  | zero => cases s; cases hk; rfl
  | succ k ih =>
    have hpos : 0 < s.toDeliver := by omega
    simp only [List.replicate_succ, srun, sstep, hpos, h1, h2, h3, and_self, ↓reduceIte, Bool.false_eq_true]
    rw [ih _ rfl rfl rfl (by show s.toDeliver - 1 = k; omega)]
    simp only [SSt.mk.injEq, true_and, and_true]
    omega

/-- invariant of target-first histories (no `appClose`) with a half-closing connection -/
structure TInv (n : Nat) (s : SSt) : Prop where
  sum : s.delivered + s.toDeliver = n
  nodrop : s.dropped = 0
  fin : s.tgtFin = true → s.toDeliver = 0
  closed : s.chanClosed = true → s.eofDown = true
  eof : s.eofDown = true → s.downDone = true
  down : s.downDone = true → s.tgtFin = true ∧ s.eofDown = true

theorem init_tinv (n : Nat) : TInv n (sinit n) := by
  constructor <;> simp [sinit]

theorem TInv.open_of_not_down {n : Nat} {s : SSt} (h : TInv n s) (hdd : s.downDone = false) : s.chanClosed = false := by
  cases hcl : s.chanClosed with
  | false => rfl
  | true => have := h.eof (h.closed hcl); rw [hdd] at this; cases this

theorem sstep_tinv {n : Nat} {s s' : SSt} {a : SAct} (h : TInv n s) (ha : a ≠ .appClose)
    (hs : sstep true s a = some s') : TInv n s' := by
  cases a <;> simp only [sstep, Option.ite_none_right_eq_some] at hs
  case appClose => exact absurd rfl ha
  case write =>
    obtain ⟨⟨hpos, htf, hdd⟩, hs⟩ := hs
    rw [h.open_of_not_down hdd] at hs
    cases hs
    exact ⟨by have := h.sum; simp only; omega, h.nodrop, fun hf => by simp [htf] at hf, by simp, h.eof,
      fun hd => by simp [hdd] at hd⟩
  case tgtClose =>
    obtain ⟨hc, hs⟩ := hs; cases hs
    exact ⟨h.sum, h.nodrop, fun _ => hc.1, h.closed, h.eof, fun hd => ⟨rfl, (h.down hd).2⟩⟩
  case downEnd =>
    obtain ⟨⟨hdd, hor⟩, hs⟩ := hs; cases hs
    have hcc := h.open_of_not_down hdd
    have htf : s.tgtFin = true := hor.elim (·.1) fun hcl => by simp [hcc] at hcl
    exact ⟨h.sum, h.nodrop, h.fin, fun hcl => by simp [hcc] at hcl, fun _ => rfl, fun _ => ⟨htf, by simp [hcc]⟩⟩
  case pipeClose =>
    obtain ⟨hc, hs⟩ := hs; cases hs
    exact ⟨h.sum, h.nodrop, h.fin, fun _ => hc.1, h.eof, h.down⟩
  case upEnd | ret =>
    obtain ⟨_, hs⟩ := hs; cases hs
    exact ⟨h.sum, h.nodrop, h.fin, h.closed, h.eof, h.down⟩

theorem srun_tinv {n : Nat} {s : SSt} (h : TInv n s) (acts : List SAct) (ha : ∀ a ∈ acts, a ≠ .appClose) :
    TInv n (srun true s acts) :=
  (srun_skipRun true).induct (fun ha h hs => sstep_tinv h ha hs) h acts ha

end SA.Socks
