/-
  SA.Proofs.DnsRespMulti — what all eight wrappers have in common.

  `tagKey t o` is what TypePriority decodes from the order tag that wrapper `t` writes for order number `o`;
  `tagStart` the first order number, `tagBound` the largest record count for which the decoded tags are
  strictly increasing (`tagKey_mono`, tight by `tagKey_wraps`).

  Every wrapper cuts the payload into `pieces` and makes one record per piece, numbered upwards: it is
  `recsFrom mk o pieces` for its own record maker `mk` (`chunkRecs_eq`, `nameRecs_eq`; TXT in DnsRespTxt).
  `tagged_recsFrom` is then the one place where "record by record" becomes "the answer section": if each
  record, once through the wire, decodes to its number's key and its piece's payload, what arrives is `Tagged`.
-/
import SA.Proofs.DnsResp
import SA.Proofs.DnsRespSort
import SA.Proofs.Pieces

namespace SA.DnsResp
open SA.DnsWire SA.WireCodec SA.DnsReq

/-- the two-character base-32 tag written as `order & 31`, `(order >> 4) & 31`, read back as c0 + 32·c1 -/
def key32 (o : Nat) : Int := b32CharToInt (b32Char o) + b32CharToInt (b32Char (o / 16)) * 32

/-- TypePriority of the record that wrapper `t` emits for order number `o` -/
def tagKey : RRType → Nat → Int
  | .null, o => 10000 + ((o % 65536 : Nat) : Int)
  | .priv, o => 20000 + ((o % 65536 : Nat) : Int)
  | .txt, o => 30000 + key32 o
  | .mx, o => 40000 + (((o * 10) % 65536 : Nat) : Int)
  | .srv, o => 50000 + ((o % 65536 : Nat) : Int)
  | .cname, o => 60000 + key32 o
  | .aaaa, o => 70000 + ((o % 65536 : Nat) : Int)
  | .a, o => 80000 + ((o % 256 : Nat) : Int)

/-- first order number a wrapper uses (TXT counts from 0, the others from 1) -/
def tagStart : RRType → Nat
  | .txt => 0
  | _ => 1

/-- largest record count for which the decoded tags are strictly increasing -/
def tagBound : RRType → Nat
  | .null => 65535
  | .priv => 65535
  | .txt => 512
  | .mx => 6553
  | .srv => 65535
  | .cname => 511
  | .aaaa => 65535
  | .a => 255

/-- the 32 tag characters: Base32CharToInt reads them back, miekg prints them as they are in a TXT string
    and in a name, and they are name-safe -/
theorem gen_tagChar_facts : ∀ m, m < 32 →
    b32CharToInt (SA.Gen.C09.c09cb32.getD m 0) = (m : Int)
    ∧ escTxtByte (SA.Gen.C09.c09cb32.getD m 0) = [SA.Gen.C09.c09cb32.getD m 0]
    ∧ escNameByte (SA.Gen.C09.c09cb32.getD m 0) = [SA.Gen.C09.c09cb32.getD m 0]
    ∧ SafeByte (SA.Gen.C09.c09cb32.getD m 0) := by decide +kernel

theorem mod32_lt (n : Nat) : n % 32 < 32 := Nat.mod_lt _ (by decide)

theorem b32CharToInt_b32Char (n : Nat) : b32CharToInt (b32Char n) = ((n % 32 : Nat) : Int) :=
  (gen_tagChar_facts _ (mod32_lt n)).1

theorem escTxtByte_b32Char (n : Nat) : escTxtByte (b32Char n) = [b32Char n] := (gen_tagChar_facts _ (mod32_lt n)).2.1

theorem escNameByte_b32Char (n : Nat) : escNameByte (b32Char n) = [b32Char n] := (gen_tagChar_facts _ (mod32_lt n)).2.2.1

theorem b32Char_safe (n : Nat) : SafeByte (b32Char n) := (gen_tagChar_facts _ (mod32_lt n)).2.2.2

theorem orderTag_safe (o : Nat) : NameSafe (orderTag o) := by
  simp [NameSafe, orderTag, b32Char_safe]

theorem key32_eq (o : Nat) : key32 o = ((o % 32 + (o / 16 % 32) * 32 : Nat) : Int) := by
  rw [key32, b32CharToInt_b32Char, b32CharToInt_b32Char]
  omega

theorem mod_mono {m i j : Nat} (hij : i < j) (hj : j < m) : i % m < j % m := by
  rw [Nat.mod_eq_of_lt hj, Nat.mod_eq_of_lt (Nat.lt_trans hij hj)]; exact hij

/-- below 512 the second character `(o >> 4) & 31` does not wrap, and it overlaps the first in one bit only -/
theorem key32_mono {i j : Nat} (hij : i < j) (hj : j < 512) : key32 i < key32 j := by
  rw [key32_eq, key32_eq, Nat.mod_eq_of_lt (a := i / 16) (by omega), Nat.mod_eq_of_lt (a := j / 16) (by omega)]
  omega

/-- the decoded tag is the type's base plus the order number modulo the field width (MX: ten times it; TXT,
    CNAME: `key32`), and below the bound nothing wraps -/
theorem tagKey_mono (t : RRType) {i j : Nat} (hij : i < j) (hj : j < tagStart t + tagBound t) :
    tagKey t i < tagKey t j := by
  cases t with
  | txt => exact Int.add_lt_add_left (key32_mono hij hj) _
  | cname => exact Int.add_lt_add_left (key32_mono hij hj) _
  | mx => exact Int.add_lt_add_left (Int.ofNat_lt.mpr (mod_mono (Nat.mul_lt_mul_of_pos_right hij (by decide))
      (show j * 10 < 65536 by simp only [tagStart, tagBound] at hj; omega))) _
  | _ => exact Int.add_lt_add_left (Int.ofNat_lt.mpr (mod_mono hij hj)) _

theorem tagKey_wraps (t : RRType) : tagKey t (tagStart t + tagBound t) ≤ tagKey t (tagStart t) := by
  cases t <;> simp only [tagKey, tagStart, tagBound, key32_eq] <;> decide

/-- records made one per piece, numbered from `o`; none = a maker refused -/
def recsFrom {β : Type} (mk : Nat → β → Option RR) : Nat → List β → Option (List RR)
  | _, [] => some []
  | o, p :: ps =>
    match mk o p with
    | none => none
    | some r => (recsFrom mk (o + 1) ps).map (r :: ·)

theorem nameRecs_eq (maxLen : Nat) (mk : Nat → List Nat → Option RR) (fuel o : Nat) (data : List Nat) :
    nameRecs maxLen mk fuel o data = recsFrom mk o (pieces maxLen fuel data) := by
  induction fuel generalizing o data with
  | zero => rfl
  | succ n ih =>
    unfold nameRecs pieces
    split
    · rfl
    · rw [recsFrom, ih]; rfl

theorem chunkRecs_eq (f : List Nat → RR) (chunk : Nat) (pre : Nat → List Nat) (fuel o : Nat) (data : List Nat) :
    some ((chunkRecs chunk pre fuel o data).map f)
      = recsFrom (fun o p => some (f (pre o ++ p))) o (pieces chunk fuel data) := by
  induction fuel generalizing o data with
  | zero => rfl
  | succ n ih =>
    unfold chunkRecs pieces
    split
    · rfl
    · rw [recsFrom, ← ih]; rfl

theorem recsFrom_cons {β : Type} {mk : Nat → β → Option RR} {o : Nat} {p : β} {ps : List β} {answers : List RR}
    (hw : recsFrom mk o (p :: ps) = some answers) :
    ∃ rr rest, mk o p = some rr ∧ recsFrom mk (o + 1) ps = some rest ∧ answers = rr :: rest := by
  rw [recsFrom] at hw
  split at hw
  · cases hw
  · rename_i rr hmk
    obtain ⟨rest, hrest, rfl⟩ := Option.map_eq_some_iff.mp hw
    exact ⟨rr, rest, hmk, hrest, rfl⟩

theorem recsFrom_length {β : Type} {mk : Nat → β → Option RR} {o : Nat} {ps : List β} {answers : List RR}
    (hw : recsFrom mk o ps = some answers) : answers.length = ps.length := by
  induction ps generalizing o answers with
  | nil => cases hw; rfl
  | cons p ps ih =>
    obtain ⟨rr, rest, _, hrest, rfl⟩ := recsFrom_cons hw
    simp [ih hrest]

theorem answersOverWire_cons {r : RR} {rest got : List RR} (h : answersOverWire (r :: rest) = .ok got) :
    ∃ r' rs, rrOverWire r = .ok r' ∧ answersOverWire rest = .ok rs ∧ got = r' :: rs := by
  rw [answersOverWire] at h
  split at h
  · cases h
  · rename_i r' h1
    split at h
    · cases h
    · rename_i rs h2
      cases h
      exact ⟨r', rs, h1, h2, rfl⟩

theorem answersOverWire_length {answers got : List RR} (h : answersOverWire answers = .ok got) :
    got.length = answers.length := by
  induction answers generalizing got with
  | nil => cases h; rfl
  | cons r rest ih =>
    obtain ⟨r', rs, _, h2, rfl⟩ := answersOverWire_cons h
    simp [ih h2]

theorem tagged_recsFrom {β : Type} (L : Nat) (kf : Nat → Int) (mk : Nat → β → Option RR) (pay : β → List Nat)
    (ps : List β) (o : Nat) (answers got : List RR)
    (hrec : ∀ o p rr r', p ∈ ps → mk o p = some rr → rrOverWire rr = .ok r' →
      typePriority r' = some (kf o) ∧ unwrapOne L r' = some (pay p))
    (hw : recsFrom mk o ps = some answers) (hwire : answersOverWire answers = .ok got) :
    Tagged L kf o got (ps.map pay) := by
  induction ps generalizing o answers got with
  | nil => cases hw; cases hwire; exact Tagged.nil o
  | cons p ps ih =>
    obtain ⟨rr, rest, hmk, hrest, rfl⟩ := recsFrom_cons hw
    obtain ⟨r', rs', h1, h2, rfl⟩ := answersOverWire_cons hwire
    have hr := hrec o p rr r' List.mem_cons_self hmk h1
    exact Tagged.cons o _ _ _ _ hr.1 hr.2
      (ih (o + 1) rest rs' (fun o p rr r' hp => hrec o p rr r' (List.mem_cons_of_mem _ hp)) hrest h2)

theorem recsFrom_some {β : Type} (mk : Nat → β → RR) (ps : List β) (o : Nat) :
    recsFrom (fun o p => some (mk o p)) o ps = some ((ps.zipIdx o).map fun pi => mk pi.2 pi.1) := by
  induction ps generalizing o with
  | nil => rfl
  | cons p ps ih => simp [recsFrom, ih]

theorem wire_recsFrom {β : Type} {mk : Nat → β → Option RR} {ps : List β} {o : Nat} {answers : List RR}
    (hok : ∀ o p rr, p ∈ ps → mk o p = some rr → ∃ r', rrOverWire rr = .ok r')
    (hw : recsFrom mk o ps = some answers) : ∃ got, answersOverWire answers = .ok got := by
  induction ps generalizing o answers with
  | nil => cases hw; exact ⟨[], rfl⟩
  | cons p ps ih =>
    obtain ⟨rr, rest, hmk, hrest, rfl⟩ := recsFrom_cons hw
    obtain ⟨r', h1⟩ := hok o p rr List.mem_cons_self hmk
    obtain ⟨rs, h2⟩ := ih (fun o p rr hp => hok o p rr (List.mem_cons_of_mem _ hp)) hrest
    exact ⟨r' :: rs, by simp [answersOverWire, h1, h2]⟩

-- regenerated facts the NULL, PRIVATE, TXT and name cases (SA.Proofs.DnsRespAll, DnsRespTxt, DnsRespNames) rest on

theorem gen_private_registered : SA.Gen.C09.queryTypePrivate = SA.Gen.C09.typeSocketAce := rfl

theorem gen_unwrapUnescapesTxt : SA.Gen.C09.unwrapUnescapesTxt = true := rfl
theorem gen_unwrapUnescapesNames : SA.Gen.C09.unwrapUnescapesNames = true := rfl
theorem gen_wrapTxtEscapes : SA.Gen.C09.wrapTxtEscapes = true := rfl

theorem gen_wrapChunkNull : SA.Gen.C09.wrapChunkNull = 65530 := rfl
theorem gen_wrapChunkPrivate : SA.Gen.C09.wrapChunkPrivate = 65530 := rfl
theorem gen_wrapChunkTxt : SA.Gen.C09.wrapChunkTxt = 253 := rfl
theorem gen_wrapTxtStrings : SA.Gen.C09.wrapTxtStrings = 250 := rfl
theorem gen_txtChunk_pos : 0 < SA.Gen.C09.wrapChunkTxt := by decide
theorem gen_txtStrings_pos : 0 < SA.Gen.C09.wrapTxtStrings := by decide

end SA.DnsResp
