/-
  SA.Proofs.HandshakeSteps — the decision trees of `serverOn` / `clientOn` taken apart once.

  `serverOn` = the announce step, then `upgradeStep`; each is one read, then a verdict that depends on the request
  alone (`announceVerdict`, `upgradeVerdict`), then the answer, in which the TLS library and the bytes that follow are
  consulted only where the verdict of the second step says so.  `clientOn` = two replies read, a status test on each,
  then `clientSession`.  Each tree is read three ways: as one equation (`serverOn_steps`, `upgradeStep_eq`,
  `clientOn_steps`) with its forward cases (`…_of_…`); backwards from a refusal (`…_refused…`) or a session
  (`…_established_iff`); and as the list of everything it can answer (`ServerAnswer`, `ClientAnswer`).
  The property theorems use these and never unfold `serverOn` / `clientOn` again.

  `serverOn` is the server that does not require client certificates.  One that does also answers 500 at the announce
  step (no TLS configuration to be had) and 403 at the upgrade step (StartTLS not asked for); that decision is modelled
  on its own (`SA.ReqCert.admitted`, property C05).
-/
import SA.Proofs.Handshake
namespace SA.Handshake

/-- server.go `upgrade` with negotiated version `v`, after the responses `prev` were written -/
def upgradeStep (cfg : SrvCfg) (tls : B → Bool) (fuel : Nat) (v : B) (prev : List Wrote) (r1 : Rd) : SrvResult :=
  match readRequest fuel r1 with
  | .err => ⟨.closed, prev⟩
  | .panic => ⟨.panic, prev⟩
  | .ok (req2, r2) =>
    if req2.method ≠ Gen.srvUpgradeMethod then ⟨.refused 405, prev ++ [⟨405, []⟩]⟩
    else if goLower (hget req2.headers bConnection) ≠ Gen.srvUpgradeConnection then ⟨.refused 406, prev ++ [⟨406, []⟩]⟩
    else if hget req2.headers bUpgrade ≠ Gen.srvUpgradePrefix ++ v then ⟨.refused 406, prev ++ [⟨406, []⟩]⟩
    else
      let w101 : Wrote := ⟨101, [(bConnection, Gen.srvUpgradeConnection), (bProtocolVersion, v), serverHdr,
                                 (bUpgrade, Gen.srvUpgradePrefix ++ v)]⟩
      if goUpper (hget req2.headers bSecurity) = goUpper Gen.srvSecurityToken then
        if supportTls cfg then
          if cfg.cert == .okerr then ⟨.refused 500, prev ++ [⟨500, []⟩]⟩
          else if tls r2.flat then ⟨.established v .tls true [], prev ++ [w101]⟩
          else ⟨.closed, prev ++ [w101]⟩
        else ⟨.refused 503, prev ++ [⟨503, []⟩]⟩
      else
        ⟨.established v (if cfg.secure then .underlying else .none) cfg.secure r2.flat, prev ++ [w101]⟩

/-- the 200 answer of server.go `handshake` -/
def w200 (cfg : SrvCfg) (v : B) : Wrote := ⟨200, capsHeaders cfg ++ [(bProtocolVersion, v), serverHdr]⟩

/-- the 101 answer of server.go `upgrade`.  `serverOn` and `upgradeStep` spell it out in a local `let`; `upgradeStep_eq`
    puts this name in its place, and nothing after it sees the `let` -/
def w101 (v : B) : Wrote :=
  ⟨101, [(bConnection, Gen.srvUpgradeConnection), (bProtocolVersion, v), serverHdr, (bUpgrade, Gen.srvUpgradePrefix ++ v)]⟩

/-- what server.go `handshake` makes of the request it has read: the status it refuses with, or the version it goes on with -/
def announceVerdict (q : Request) : Except Nat B :=
  if q.method ≠ Gen.srvAnnounceMethod then .error 405
  else if negotiate (hget q.headers Gen.acceptsProtocolVersion) = [] then .error 409
  else .ok (negotiate (hget q.headers Gen.acceptsProtocolVersion))

/-- `NewServerConnection` = `handshake`, and `upgrade` only when `handshake` reported no error -/
theorem serverOn_steps (cfg : SrvCfg) (tls : B → Bool) (fuel : Nat) (r : Rd) :
    serverOn cfg tls fuel r =
      match readRequest fuel r with
      | .err => ⟨.refused 400, [⟨400, [serverHdr]⟩]⟩
      | .panic => ⟨.panic, []⟩
      | .ok (req, r1) =>
        match announceVerdict req with
        | .error st => ⟨.refused st, [⟨st, [serverHdr]⟩]⟩
        | .ok v => upgradeStep cfg tls fuel v [w200 cfg v] r1 := by
  unfold serverOn upgradeStep w200 announceVerdict
  rcases readRequest fuel r with ⟨req, r1⟩ | _ | _
  · dsimp only
    by_cases hm : req.method ≠ Gen.srvAnnounceMethod
    · rw [if_pos hm, if_pos hm]
      rfl
    · rw [if_neg hm, if_neg hm]
      by_cases hv : negotiate (hget req.headers Gen.acceptsProtocolVersion) = []
      · rw [if_pos hv, if_pos hv]
        rfl
      · rw [if_neg hv, if_neg hv]
        rcases readRequest fuel r1 with ⟨req2, r2⟩ | _ | _ <;> rfl
  · rfl
  · rfl

theorem announceVerdict_error {q : Request} {st : Nat} (h : announceVerdict q = .error st) : st ∈ [405, 409] := by
  unfold announceVerdict at h
  split at h
  · cases h; decide
  split at h <;> cases h
  decide

/-- the statuses server.go `handshake` refuses with: 400 for a request that cannot be read, then `announceVerdict`'s -/
def announceRefusals : List Nat := [400, 405, 409]
/-- the statuses server.go `upgrade` refuses with (`upgradeVerdict_refuse`) -/
def upgradeRefusals : List Nat := [405, 406, 500, 503]

/-- the three checks server.go `upgrade` makes of the request: method, `Connection`, `Upgrade` -/
def Passes (v : B) (q : Request) : Prop :=
  q.method = Gen.srvUpgradeMethod ∧ goLower (hget q.headers bConnection) = Gen.srvUpgradeConnection ∧
    hget q.headers bUpgrade = Gen.srvUpgradePrefix ++ v

/-- `Security: StartTLS`, case-insensitive -/
def AsksTls (q : Request) : Prop := goUpper (hget q.headers bSecurity) = goUpper Gen.srvSecurityToken

/-- the server can do StartTLS: the carrier is not already encrypted and the certificate manager yields a certificate
    each time it is asked (`okerr`: at the announce step, for the capability, but not again at the upgrade step) -/
def CanStartTls (cfg : SrvCfg) : Prop := cfg.secure = false ∧ cfg.cert = .ok

instance (v : B) (q : Request) : Decidable (Passes v q) := inferInstanceAs (Decidable (_ ∧ _ ∧ _))
instance (q : Request) : Decidable (AsksTls q) := inferInstanceAs (Decidable (_ = _))
instance (cfg : SrvCfg) : Decidable (CanStartTls cfg) := inferInstanceAs (Decidable (_ ∧ _))

/-- in the words of server.go: StartTLS was offered (`supportTls`) and the certificate is produced again -/
theorem canStartTls_iff_supportTls (cfg : SrvCfg) :
    CanStartTls cfg ↔ supportTls cfg = true ∧ (cfg.cert == CertMode.okerr) = false := by
  obtain ⟨s, c⟩ := cfg
  cases s <;> cases c <;> simp [CanStartTls, supportTls]

/-- what server.go `upgrade` makes of the request it has read, before TLS or the bytes that follow come into it -/
inductive Verdict
  | refuse (st : Nat)
  | startTls
  | plain

/-- StartTLS asked of this server: gone into, or refused — 500 when the server had offered it (the certificate is not
    produced a second time, `okerr`), 503 when it never did -/
def Verdict.ofStartTls (cfg : SrvCfg) : Verdict :=
  if CanStartTls cfg then .startTls else .refuse (if supportTls cfg then 500 else 503)

/-- the cascade of `upgradeStep` in normal form (`upgradeStep_eq`): 405 / 406 for a request that fails a check, then the
    StartTLS question -/
def upgradeVerdict (cfg : SrvCfg) (v : B) (q : Request) : Verdict :=
  if ¬ Passes v q then .refuse (if q.method = Gen.srvUpgradeMethod then 406 else 405)
  else if ¬ AsksTls q then .plain
  else .ofStartTls cfg

/-- the result the verdict leads to; `tlsOk` = what crypto/tls reports, `rest` = the bytes after the request -/
def Verdict.answer (cfg : SrvCfg) (v : B) (prev : List Wrote) (tlsOk : Bool) (rest : B) : Verdict → SrvResult
  | .refuse st => ⟨.refused st, prev ++ [⟨st, []⟩]⟩
  | .startTls => ⟨if tlsOk then .established v .tls true [] else .closed, prev ++ [w101 v]⟩
  | .plain => ⟨.established v (if cfg.secure then .underlying else .none) cfg.secure rest, prev ++ [w101 v]⟩

/-- the session the server reports for a well-formed stream: the `startTls` arm of `Verdict.answer` with TLS completing,
    or its `plain` arm -/
def expectedSession (cfg : SrvCfg) (v : B) (startTls : Bool) (rest : B) : Outcome :=
  if startTls then .established v .tls true []
  else .established v (if cfg.secure then .underlying else .none) cfg.secure rest

theorem expectedSession_established (cfg : SrvCfg) (v : B) (startTls : Bool) (rest : B) :
    ∃ t s l, expectedSession cfg v startTls rest = .established v t s l := by
  cases startTls <;> exact ⟨_, _, _, rfl⟩

theorem expectedSession_version {cfg : SrvCfg} {n v : B} {b : Bool} {rest : B} {t : Tech} {s : Bool} {l : B}
    (h : expectedSession cfg n b rest = .established v t s l) : n = v := by
  cases b <;> cases h <;> rfl

theorem upgradeStep_eq (cfg : SrvCfg) (tls : B → Bool) (f : Nat) (v : B) (prev : List Wrote) (r1 : Rd) :
    upgradeStep cfg tls f v prev r1 =
      match readRequest f r1 with
      | .err => ⟨.closed, prev⟩
      | .panic => ⟨.panic, prev⟩
      | .ok (q, r2) => (upgradeVerdict cfg v q).answer cfg v prev (tls r2.flat) r2.flat := by
  unfold upgradeStep upgradeVerdict Verdict.ofStartTls Passes AsksTls
  rcases readRequest f r1 with ⟨q, r2⟩ | _ | _
  · dsimp only
    by_cases h1 : q.method = Gen.srvUpgradeMethod
    case neg => simp [h1, Verdict.answer]
    by_cases h2 : goLower (hget q.headers bConnection) = Gen.srvUpgradeConnection
    case neg => simp [h1, h2, Verdict.answer]
    by_cases h3 : hget q.headers bUpgrade = Gen.srvUpgradePrefix ++ v
    case neg => simp [h1, h2, h3, Verdict.answer]
    by_cases h4 : goUpper (hget q.headers bSecurity) = goUpper Gen.srvSecurityToken
    case neg => simp [h1, h2, h3, h4, Verdict.answer, w101]
    -- `Security: StartTLS`: the code tests `supportTls`, then asks for the certificate once more; the two together are
    -- `CanStartTls` (`canStartTls_iff_supportTls`), and then the TLS library decides
    cases hs : supportTls cfg <;> cases hk : cfg.cert == .okerr <;> cases tls r2.flat <;>
      simp [h1, h2, h3, h4, hs, hk, canStartTls_iff_supportTls cfg, Verdict.answer, w101]
  · rfl
  · rfl

theorem upgradeStep_sim (cfg : SrvCfg) (tls : B → Bool) (f : Nat) (v : B) (prev : List Wrote) {r1 r1' : Rd}
    (h : r1.flat = r1'.flat) : upgradeStep cfg tls f v prev r1 = upgradeStep cfg tls f v prev r1' := by
  rw [upgradeStep_eq, upgradeStep_eq]
  rcases readRequest_sim f h with ⟨q, r2, r2', e, e', h2⟩ | ⟨e, e'⟩ | ⟨e, e'⟩ <;> rw [e, e']
  simp only [h2]

theorem serverOn_sim (cfg : SrvCfg) (tls : B → Bool) (f : Nat) {r r' : Rd} (h : r.flat = r'.flat) :
    serverOn cfg tls f r = serverOn cfg tls f r' := by
  rw [serverOn_steps, serverOn_steps]
  rcases readRequest_sim f h with ⟨q, r1, r1', e, e', h1⟩ | ⟨e, e'⟩ | ⟨e, e'⟩ <;> rw [e, e']
  simp only [upgradeStep_sim cfg tls f _ _ h1]

theorem serverRun_flat (cfg : SrvCfg) (tls : B → Bool) (chunks : List B) :
    serverRun cfg tls chunks = serverOn cfg tls (chunks.flatten.length + 2) ⟨chunks.flatten, []⟩ :=
  serverOn_sim _ _ _ (by simp [Rd.flat])

theorem upgradeStep_eof (cfg : SrvCfg) (tls : B → Bool) (f : Nat) (v : B) (prev : List Wrote) :
    upgradeStep cfg tls f v prev ⟨[], []⟩ = ⟨.closed, prev⟩ := rfl

theorem upgradeVerdict_refuse {cfg : SrvCfg} {v : B} {q : Request} {st : Nat}
    (h : upgradeVerdict cfg v q = .refuse st) : st ∈ upgradeRefusals := by
  unfold upgradeVerdict Verdict.ofStartTls at h
  by_cases hp : Passes v q
  · rw [if_neg (not_not_intro hp)] at h
    by_cases ha : AsksTls q
    · rw [if_neg (not_not_intro ha)] at h
      by_cases hr : CanStartTls cfg
      · rw [if_pos hr] at h; cases h
      · rw [if_neg hr] at h; cases h; split <;> decide
    · rw [if_pos ha] at h; cases h
  · rw [if_pos hp] at h; cases h; split <;> decide

theorem upgradeVerdict_startTls_iff {cfg : SrvCfg} {v : B} {q : Request} :
    upgradeVerdict cfg v q = .startTls ↔ Passes v q ∧ AsksTls q ∧ CanStartTls cfg := by
  unfold upgradeVerdict Verdict.ofStartTls
  by_cases hp : Passes v q <;> by_cases ha : AsksTls q <;> by_cases hr : CanStartTls cfg <;> simp [hp, ha, hr]

section
variable {cfg : SrvCfg} {tls : B → Bool} {f : Nat} {r r1 r2 : Rd} {q : Request} {v : B} {n : Nat} {st : Int}

/-- the forward reading of `serverOn_steps`, one equation per way the announce step can go -/
theorem serverOn_of_unreadable (e : readRequest f r = .err) :
    serverOn cfg tls f r = ⟨.refused 400, [⟨400, [serverHdr]⟩]⟩ := by
  rw [serverOn_steps, e]

theorem serverOn_of_error (e : readRequest f r = .ok (q, r1)) (ha : announceVerdict q = .error n) :
    serverOn cfg tls f r = ⟨.refused n, [⟨n, [serverHdr]⟩]⟩ := by
  rw [serverOn_steps, e]
  dsimp only
  rw [ha]

theorem serverOn_of_ok (e : readRequest f r = .ok (q, r1)) (ha : announceVerdict q = .ok v) :
    serverOn cfg tls f r = upgradeStep cfg tls f v [w200 cfg v] r1 := by
  rw [serverOn_steps, e]
  dsimp only
  rw [ha]

theorem upgradeStep_of_refuse {prev : List Wrote} (e : readRequest f r1 = .ok (q, r2))
    (hv : upgradeVerdict cfg v q = .refuse n) :
    upgradeStep cfg tls f v prev r1 = ⟨.refused n, prev ++ [⟨n, []⟩]⟩ := by
  rw [upgradeStep_eq, e]
  dsimp only
  rw [hv]
  rfl

/-- the upgrade step refuses only by its verdict on a request it has read: a read error closes, a failed TLS handshake
    closes -/
theorem upgradeStep_refused {prev : List Wrote} (h : (upgradeStep cfg tls f v prev r1).out = .refused st) :
    ∃ q r2 n, readRequest f r1 = .ok (q, r2) ∧ upgradeVerdict cfg v q = .refuse n := by
  rw [upgradeStep_eq] at h
  cases hr : readRequest f r1 with
  | err => rw [hr] at h; cases h
  | panic => rw [hr] at h; cases h
  | ok x =>
    obtain ⟨q, r2⟩ := x
    rw [hr] at h
    dsimp only at h
    cases hv : upgradeVerdict cfg v q with
    | refuse n => exact ⟨q, r2, n, rfl, hv⟩
    | plain => rw [hv] at h; cases h
    | startTls => rw [hv] at h; cases htls : tls r2.flat <;> simp [Verdict.answer, htls] at h

/-- **which refusals there are, by the number of responses written.**  After one response: the first request could not be
    read, or the announce verdict on it is an error (past the announce step a refusal comes after the 200). -/
theorem serverOn_refused_one (hone : (serverOn cfg tls f r).written.length = 1)
    (href : (serverOn cfg tls f r).out = .refused st) :
    readRequest f r = .err ∨ ∃ q r1 n, readRequest f r = .ok (q, r1) ∧ announceVerdict q = .error n := by
  cases e : readRequest f r with
  | err => exact .inl rfl
  | panic => exact absurd e (readRequest_ne_panic f r)
  | ok x =>
    obtain ⟨q, r1⟩ := x
    cases ha : announceVerdict q with
    | error n => exact .inr ⟨q, r1, n, rfl, ha⟩
    | ok v =>
      rw [serverOn_of_ok e ha] at hone href
      obtain ⟨_, _, _, e2, hv⟩ := upgradeStep_refused href
      rw [upgradeStep_of_refuse e2 hv] at hone
      cases hone

/-- After two: the announce verdict was a version and the upgrade verdict on the second request is the refusal. -/
theorem serverOn_refused_two (e : readRequest f r = .ok (q, r1))
    (htwo : (serverOn cfg tls f r).written.length = 2) (href : (serverOn cfg tls f r).out = .refused st) :
    ∃ v q2 r2 n, announceVerdict q = .ok v ∧ readRequest f r1 = .ok (q2, r2) ∧ upgradeVerdict cfg v q2 = .refuse n := by
  cases ha : announceVerdict q with
  | error n => rw [serverOn_of_error e ha] at htwo; cases htwo
  | ok v =>
    rw [serverOn_of_ok e ha] at href
    obtain ⟨q2, r2, n, e2, hv⟩ := upgradeStep_refused href
    exact ⟨v, q2, r2, n, rfl, e2, hv⟩

end

theorem upgradeStep_established_iff {cfg : SrvCfg} {tls : B → Bool} {f : Nat} {v : B} {prev : List Wrote} {r1 : Rd}
    {v' : B} {t : Tech} {s : Bool} {l : B} :
    (upgradeStep cfg tls f v prev r1).out = .established v' t s l ↔
    ∃ q r2, readRequest f r1 = .ok (q, r2) ∧ Passes v q ∧
      (AsksTls q → CanStartTls cfg ∧ tls r2.flat = true) ∧
      expectedSession cfg v (decide (AsksTls q)) r2.flat = .established v' t s l := by
  rw [upgradeStep_eq]
  cases hr : readRequest f r1 with
  | err => simp
  | panic => simp
  | ok x =>
    obtain ⟨q, r2⟩ := x
    have one : ∀ P : Request → Rd → Prop, (∃ q' r2', Parsed.ok (q, r2) = Parsed.ok (q', r2') ∧ P q' r2') ↔ P q r2 :=
      fun P => ⟨fun ⟨_, _, e, h⟩ => by cases e; exact h, fun h => ⟨_, _, rfl, h⟩⟩
    rw [one]
    unfold upgradeVerdict Verdict.ofStartTls expectedSession
    by_cases hp : Passes v q
    case neg => simp [hp, Verdict.answer]
    by_cases ha : AsksTls q
    case neg => simp [hp, ha, Verdict.answer]
    by_cases hr : CanStartTls cfg
    case neg => simp [hp, ha, hr, Verdict.answer]
    cases htls : tls r2.flat <;> simp [hp, ha, hr, htls, Verdict.answer]

inductive ServerAnswer (cfg : SrvCfg) (tls : B → Bool) : SrvResult → Prop
  | refusedAnnounce {st : Nat} : st ∈ announceRefusals → ServerAnswer cfg tls ⟨.refused st, [⟨st, [serverHdr]⟩]⟩
  | hungUp (v : B) : ServerAnswer cfg tls ⟨.closed, [w200 cfg v]⟩
  | refusedUpgrade (v : B) {st : Nat} : st ∈ upgradeRefusals →
      ServerAnswer cfg tls ⟨.refused st, [w200 cfg v, ⟨st, []⟩]⟩
  | tlsFailed (v : B) : ServerAnswer cfg tls ⟨.closed, [w200 cfg v, w101 v]⟩
  | startTls (v : B) {left : B} : supportTls cfg = true → tls left = true →
      ServerAnswer cfg tls ⟨.established v .tls true [], [w200 cfg v, w101 v]⟩
  | plain (v rest : B) :
      ServerAnswer cfg tls ⟨.established v (if cfg.secure then .underlying else .none) cfg.secure rest, [w200 cfg v, w101 v]⟩

theorem serverOn_answer (cfg : SrvCfg) (tls : B → Bool) (f : Nat) (r : Rd) : ServerAnswer cfg tls (serverOn cfg tls f r) := by
  rw [serverOn_steps]
  cases hr : readRequest f r with
  | err => exact .refusedAnnounce (by decide)
  | panic => exact absurd hr (readRequest_ne_panic f r)
  | ok x =>
    obtain ⟨q, r1⟩ := x
    dsimp only
    rcases ha : announceVerdict q with st | v
    · exact .refusedAnnounce (List.mem_cons_of_mem _ (announceVerdict_error ha))
    dsimp only
    rw [upgradeStep_eq]
    cases hr1 : readRequest f r1 with
    | err => exact .hungUp v
    | panic => exact absurd hr1 (readRequest_ne_panic f r1)
    | ok y =>
      obtain ⟨q2, r2⟩ := y
      dsimp only
      cases hv : upgradeVerdict cfg v q2 with
      | refuse n => exact .refusedUpgrade v (upgradeVerdict_refuse hv)
      | plain => exact .plain v r2.flat
      | startTls =>
        cases htls : tls r2.flat
        · exact .tlsFailed v
        · exact .startTls v ((canStartTls_iff_supportTls cfg).mp (upgradeVerdict_startTls_iff.mp hv).2.2).1 htls

theorem serverRun_answer (cfg : SrvCfg) (tls : B → Bool) (chunks : List B) :
    ServerAnswer cfg tls (serverRun cfg tls chunks) :=
  serverOn_answer cfg tls _ _

/-- what the client reports after a 101 (the client's side of `expectedSession`): the StartTLS decision was taken from
    the first reply; `tlsOk` = what crypto/tls reports, `rest` = the bytes after the reply -/
def clientSession (s0 : Bool) (ver : B) (should tlsOk : Bool) (rest : B) : Outcome :=
  if should then (if tlsOk then .established ver .tls true [] else .tlsfail)
  else .established ver (if s0 then .underlying else .none) s0 rest

/-- client.go `upgrade` once the second reply is read: its status, then the session -/
def clientAnswer (s0 : Bool) (ver : B) (should : Bool) (q : Response) (tlsOk : Bool) (rest : B) : Outcome :=
  if q.code ≠ Gen.cliUpgradeStatus then .refused q.code else clientSession s0 ver should tlsOk rest

/-- client.go `upgrade`: the second request is written, the second reply read -/
def clientUpgrade (s0 : Bool) (tls : B → Bool) (fuel : Nat) (ver : B) (should : Bool) (r1 : Rd) : CliResult :=
  ⟨match readResponse fuel r1 with
    | .err => .closed
    | .panic => .panic
    | .ok (q, r2) => clientAnswer s0 ver should q (tls r2.flat) r2.flat,
   2, upgradeRequest ver should⟩

theorem clientOn_steps (s0 : Bool) (tls : B → Bool) (fuel : Nat) (r : Rd) :
    clientOn s0 tls fuel r =
      match readResponse fuel r with
      | .err => ⟨.closed, 1, []⟩
      | .panic => ⟨.panic, 1, []⟩
      | .ok (resp, r1) =>
        if resp.code ≠ Gen.cliHandshakeStatus then ⟨.refused resp.code, 1, []⟩
        else clientUpgrade s0 tls fuel (hget resp.headers bProtocolVersion)
              (shouldStartTls s0 (hget resp.headers Gen.capabilitiesHdr)) r1 := by
  unfold clientOn clientUpgrade clientAnswer clientSession
  rcases readResponse fuel r with ⟨resp, r1⟩ | _ | _
  · dsimp only
    by_cases hc : resp.code ≠ Gen.cliHandshakeStatus
    · rw [if_pos hc, if_pos hc]
    rw [if_neg hc, if_neg hc]
    rcases readResponse fuel r1 with ⟨q, r2⟩ | _ | _
    · dsimp only
      by_cases hc2 : q.code ≠ Gen.cliUpgradeStatus
      · rw [if_pos hc2, if_pos hc2]
      rw [if_neg hc2, if_neg hc2]
      cases shouldStartTls s0 (hget resp.headers Gen.capabilitiesHdr) <;> cases tls r2.flat <;> rfl
    · rfl
    · rfl
  · rfl
  · rfl

theorem clientUpgrade_sim (s0 : Bool) (tls : B → Bool) (f : Nat) (ver : B) (sh : Bool) {r1 r1' : Rd}
    (h : r1.flat = r1'.flat) : clientUpgrade s0 tls f ver sh r1 = clientUpgrade s0 tls f ver sh r1' := by
  unfold clientUpgrade
  rcases readResponse_sim f h with ⟨q, r2, r2', e, e', h2⟩ | ⟨e, e'⟩ | ⟨e, e'⟩ <;> rw [e, e']
  simp only [h2]

theorem clientOn_sim (s0 : Bool) (tls : B → Bool) (f : Nat) {r r' : Rd} (h : r.flat = r'.flat) :
    clientOn s0 tls f r = clientOn s0 tls f r' := by
  rw [clientOn_steps, clientOn_steps]
  rcases readResponse_sim f h with ⟨q, r1, r1', e, e', h1⟩ | ⟨e, e'⟩ | ⟨e, e'⟩ <;> rw [e, e']
  simp only [clientUpgrade_sim s0 tls f _ _ h1]

theorem clientRun_flat (s0 : Bool) (tls : B → Bool) (chunks : List B) :
    clientRun s0 tls chunks = clientOn s0 tls (chunks.flatten.length + 2) ⟨chunks.flatten, []⟩ :=
  clientOn_sim _ _ _ (by simp [Rd.flat])

theorem clientUpgrade_eof (s0 : Bool) (tls : B → Bool) (f : Nat) (ver : B) (sh : Bool) :
    clientUpgrade s0 tls f ver sh ⟨[], []⟩ = ⟨.closed, 2, upgradeRequest ver sh⟩ := rfl

theorem clientSession_version {s0 : Bool} {ver : B} {sh tlsOk : Bool} {rest v : B} {t : Tech} {s : Bool} {l : B}
    (h : clientSession s0 ver sh tlsOk rest = .established v t s l) : v = ver := by
  unfold clientSession at h
  cases sh <;> cases tlsOk <;> cases h <;> rfl

theorem clientAnswer_established_iff {s0 : Bool} {ver : B} {sh : Bool} {q : Response} {tlsOk : Bool} {rest : B}
    {v : B} {t : Tech} {s : Bool} {l : B} :
    clientAnswer s0 ver sh q tlsOk rest = .established v t s l ↔
    q.code = Gen.cliUpgradeStatus ∧ clientSession s0 ver sh tlsOk rest = .established v t s l := by
  unfold clientAnswer
  by_cases hc : q.code = Gen.cliUpgradeStatus <;> simp [hc]

section
variable {s0 : Bool} {tls : B → Bool} {f : Nat} {r r1 r2 : Rd} {q : Response} {ver : B} {sh : Bool} {st : Int}

/-- the forward reading of `clientOn_steps` and of `clientUpgrade`, as far as refusals go -/
theorem clientOn_of_refused (e : readResponse f r = .ok (q, r1)) (hc : q.code ≠ Gen.cliHandshakeStatus) :
    clientOn s0 tls f r = ⟨.refused q.code, 1, []⟩ := by
  rw [clientOn_steps, e]
  exact if_pos hc

theorem clientOn_of_accepted (e : readResponse f r = .ok (q, r1)) (hc : q.code = Gen.cliHandshakeStatus) :
    clientOn s0 tls f r = clientUpgrade s0 tls f (hget q.headers bProtocolVersion)
      (shouldStartTls s0 (hget q.headers Gen.capabilitiesHdr)) r1 := by
  rw [clientOn_steps, e]
  exact if_neg (not_not_intro hc)

theorem clientUpgrade_of_refused (e : readResponse f r1 = .ok (q, r2)) (hc : q.code ≠ Gen.cliUpgradeStatus) :
    clientUpgrade s0 tls f ver sh r1 = ⟨.refused q.code, 2, upgradeRequest ver sh⟩ := by
  unfold clientUpgrade clientAnswer
  rw [e]
  dsimp only
  rw [if_pos hc]

/-- the client's upgrade step reports a refusal only for a second reply it has read whose status is not 101 -/
theorem clientUpgrade_refused (h : (clientUpgrade s0 tls f ver sh r1).out = .refused st) :
    ∃ q r2, readResponse f r1 = .ok (q, r2) ∧ q.code ≠ Gen.cliUpgradeStatus := by
  unfold clientUpgrade clientAnswer clientSession at h
  cases hr : readResponse f r1 with
  | err => rw [hr] at h; cases h
  | panic => rw [hr] at h; cases h
  | ok x =>
    refine ⟨x.1, x.2, rfl, fun hc => ?_⟩
    rw [hr] at h
    dsimp only at h
    rw [if_neg (not_not_intro hc)] at h
    -- status 101: a session, or `tlsfail`
    split at h
    · split at h <;> cases h
    · cases h

/-- **which refusals the client reports, by the number of requests written.**  After one: the first reply was read and
    its status is not 200 (a reply that cannot be read is `closed`). -/
theorem clientOn_refused_one (hone : (clientOn s0 tls f r).requests = 1) (href : (clientOn s0 tls f r).out = .refused st) :
    ∃ q r1, readResponse f r = .ok (q, r1) ∧ q.code ≠ Gen.cliHandshakeStatus := by
  cases e : readResponse f r with
  | err => rw [clientOn_steps, e] at href; cases href
  | panic => rw [clientOn_steps, e] at href; cases href
  | ok x =>
    refine ⟨x.1, x.2, rfl, fun hc => ?_⟩
    rw [clientOn_of_accepted e hc] at hone
    cases hone

/-- After two: the first status was 200 and the second reply was read with a status that is not 101. -/
theorem clientOn_refused_two (e : readResponse f r = .ok (q, r1))
    (htwo : (clientOn s0 tls f r).requests = 2) (href : (clientOn s0 tls f r).out = .refused st) :
    q.code = Gen.cliHandshakeStatus ∧ ∃ q2 r2, readResponse f r1 = .ok (q2, r2) ∧ q2.code ≠ Gen.cliUpgradeStatus := by
  by_cases hc : q.code = Gen.cliHandshakeStatus
  · rw [clientOn_of_accepted e hc] at href
    exact ⟨hc, clientUpgrade_refused href⟩
  · rw [clientOn_of_refused e hc] at htwo
    cases htwo

end

theorem clientUpgrade_established_iff {s0 : Bool} {tls : B → Bool} {f : Nat} {ver : B} {sh : Bool} {r1 : Rd}
    {v : B} {t : Tech} {s : Bool} {l : B} :
    (clientUpgrade s0 tls f ver sh r1).out = .established v t s l ↔
    ∃ q r2, readResponse f r1 = .ok (q, r2) ∧ q.code = Gen.cliUpgradeStatus ∧
      clientSession s0 ver sh (tls r2.flat) r2.flat = .established v t s l := by
  unfold clientUpgrade
  cases hr : readResponse f r1 with
  | err => simp
  | panic => simp
  | ok x =>
    obtain ⟨q, r2⟩ := x
    simp only [clientAnswer_established_iff, Parsed.ok.injEq, Prod.mk.injEq]
    constructor
    · rintro ⟨a, b⟩; exact ⟨q, r2, ⟨rfl, rfl⟩, a, b⟩
    · rintro ⟨_, _, ⟨rfl, rfl⟩, a, b⟩; exact ⟨a, b⟩

theorem clientOn_established_iff {s0 : Bool} {tls : B → Bool} {f : Nat} {r : Rd} {v : B} {t : Tech} {s : Bool} {l : B} :
    (clientOn s0 tls f r).out = .established v t s l ↔
    ∃ resp r1 resp2 r2, readResponse f r = .ok (resp, r1) ∧ resp.code = Gen.cliHandshakeStatus ∧
      readResponse f r1 = .ok (resp2, r2) ∧ resp2.code = Gen.cliUpgradeStatus ∧
      clientSession s0 (hget resp.headers bProtocolVersion) (shouldStartTls s0 (hget resp.headers Gen.capabilitiesHdr))
        (tls r2.flat) r2.flat = .established v t s l := by
  rw [clientOn_steps]
  cases hr : readResponse f r with
  | err => simp
  | panic => simp
  | ok x =>
    obtain ⟨resp, r1⟩ := x
    dsimp only
    by_cases hc : resp.code = Gen.cliHandshakeStatus
    case neg =>
      rw [if_pos hc]
      constructor
      · intro h; cases h
      · rintro ⟨_, _, _, _, e, c, -⟩; cases e; exact absurd c hc
    rw [if_neg (not_not_intro hc), clientUpgrade_established_iff]
    constructor
    · rintro ⟨q, r2, e, a, b⟩; exact ⟨resp, r1, q, r2, rfl, hc, e, a, b⟩
    · rintro ⟨_, _, q, r2, e0, -, e, a, b⟩; cases e0; exact ⟨q, r2, e, a, b⟩

/-- every outcome `clientOn` can report (the client's side of `ServerAnswer`) -/
inductive ClientAnswer (s0 : Bool) (tls : B → Bool) : Outcome → Prop
  | closed : ClientAnswer s0 tls .closed
  | refused (st : Int) : ClientAnswer s0 tls (.refused st)
  | tlsFailed : ClientAnswer s0 tls .tlsfail
  | startTls (v : B) {left : B} : tls left = true → ClientAnswer s0 tls (.established v .tls true [])
  | plain (v rest : B) : ClientAnswer s0 tls (.established v (if s0 then .underlying else .none) s0 rest)

theorem clientOn_answer (s0 : Bool) (tls : B → Bool) (f : Nat) (r : Rd) : ClientAnswer s0 tls (clientOn s0 tls f r).out := by
  rw [clientOn_steps]
  cases hr : readResponse f r with
  | err => exact .closed
  | panic => exact absurd hr (readResponse_ne_panic f r)
  | ok x =>
    dsimp only
    split
    · exact .refused _
    unfold clientUpgrade clientAnswer clientSession
    cases hr1 : readResponse f x.2 with
    | err => exact .closed
    | panic => exact absurd hr1 (readResponse_ne_panic f x.2)
    | ok y =>
      dsimp only
      split
      · exact .refused _
      split
      · split
        · exact .startTls _ ‹_›
        · exact .tlsFailed
      · exact .plain _ _

theorem clientRun_answer (s0 : Bool) (tls : B → Bool) (chunks : List B) :
    ClientAnswer s0 tls (clientRun s0 tls chunks).out :=
  clientOn_answer s0 tls _ _

end SA.Handshake
