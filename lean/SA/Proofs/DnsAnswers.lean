/-
  SA.Proofs.DnsAnswers — the exchange model with answer identities (SA.Model.DnsAnswers): the retry loop through its
  two equations and the recursion over them (the shape of `SA.DnsExchange.loop_absorbs`), where an answer the client
  sees comes from, and a `Write` of one fragment.
-/
import SA.Model.DnsAnswers
import SA.Proofs.QueueOps
namespace SA.DnsAnswers

/-- an answer, whatever send it answers, ends the loop with success when no id rule stands above the communicator -/
theorem loopA_ans {p : P} {fs : List AFate} {left j : Nat} {o : Option Nat} (hr : p.ring = none)
    (h : sees p.filter fs j = .ans o) : loopA p fs (left + 1) j = (j + 1, .got o) := by
  simp only [loopA, h, accepts, hr, if_true]

/-- a recognised timeout with tries left: the next send -/
theorem loopA_tmo {p : P} {fs : List AFate} {left j : Nat} (ht : p.test = 1) (h : sees p.filter fs j = .tmo) :
    loopA p fs (left + 2) j = loopA p fs (left + 1) (j + 1) := by
  simp only [loopA, h, ht, if_true, Nat.add_one_ne_zero, if_false]

theorem loopA_absorbs (p : P) (hr : p.ring = none) (ht : p.test = 1) (fs : List AFate) :
    ∀ (k left j : Nat) (o : Option Nat), k < left →
      (∀ i, i < k → sees p.filter fs (j + i) = .tmo) → sees p.filter fs (j + k) = .ans o →
      loopA p fs left j = (j + k + 1, .got o)
  | 0, _ + 1, _, _, _, _, ha => loopA_ans hr ha
  | k + 1, left + 2, j, o, hl, hloss, ha => by
    rw [loopA_tmo (j := j) ht (hloss 0 (Nat.succ_pos k)),
      loopA_absorbs p hr ht fs k (left + 1) (j + 1) o (by omega)
        (fun i hi => by rw [Nat.add_right_comm, Nat.add_assoc]; exact hloss (i + 1) (by omega))
        (by rw [Nat.add_right_comm, Nat.add_assoc]; exact ha),
      Nat.add_right_comm j 1 k]
    rfl

theorem dueAt_handled {fs : List AFate} {i j : Nat} (h : dueAt fs i j = true) : (fateAt fs i).handled = true := by
  unfold dueAt at h
  split at h
  · next heq => rw [heq]; rfl
  · next heq => rw [heq]; rfl
  · cases h

/-- an answer reaches `QueryWithData` at send `j` only as the one due from an earlier send, or as this send's own -/
theorem sees_ans {filter : Bool} {fs : List AFate} {j : Nat} {o : Option Nat} (h : sees filter fs j = .ans o) :
    (∃ i, i < j ∧ dueAt fs i j = true ∧ o = some i) ∨
      ((fateAt fs j).handled = true ∧ (o = some j ∨ o = none)) := by
  unfold sees at h
  cases filter with
  | true =>
    -- miekg's client: `ok` and `dup` see this send's own answer, every other fate none
    cases hf : fateAt fs j <;> simp_all [AFate.handled]
  | false =>
    cases hd : dueFrom fs j with
    | none =>
      -- nothing due: `ok`, `dup` see their own answer, `fid` one with an id no query had, the other fates none
      cases hf : fateAt fs j <;> simp_all [AFate.handled]
    | some i =>
      obtain ⟨hdue, hi, -⟩ := List.find?_range_eq_some.mp hd
      refine Or.inl ⟨i, List.mem_range.mp hi, hdue, ?_⟩
      -- `er`, `st` see no answer; every other fate sees the one due from send `i`
      cases hf : fateAt fs j <;> simp_all

theorem anyHandled_of (fs : List AFate) (j j' i : Nat) (h1 : j ≤ i) (h2 : i < j') (h : (fateAt fs i).handled = true) :
    anyHandled fs j j' = true := by
  unfold anyHandled
  rw [List.any_eq_true]
  exact ⟨i, by rw [List.mem_range']; exact ⟨i - j, by omega, by omega⟩, h⟩

theorem acks_replicate {n cur : Nat} {o : Option Nat} (h : ∀ i, o = some i → i < n) :
    acks (List.replicate n cur) cur o = true := by
  cases o with
  | none => rfl
  | some i => simp [acks, h i rfl]

/-- a `Write` of one fragment whose retry loop takes, after `j` sends, an answer that acknowledges the fragment -/
theorem writeA_single {p : P} {mtu : Nat} {data : List Nat} {fs : List AFate} (hd : data ≠ []) (hm : data.length ≤ mtu)
    {j : Nat} {o : Option Nat} (hl : loopA p fs p.tries 0 = (j, .got o)) (hh : anyHandled fs 0 j = true)
    (ha : acks (List.replicate j 0) 0 o = true) :
    writeA p mtu data fs = ({ j := j, srv := 1, hist := List.replicate j 0 }, data.length, true) := by
  simp [writeA, SA.Queue.chunks_single hd hm, writeLoopA, chunkAddedA, hl, hh, ha]

end SA.DnsAnswers
