/-
  SA.Proofs.DnsExchange — the retry loop of `SendAndReceive` for one fragment (SA.Model.DnsExchange): what one try does,
  and that losses fewer than the tries left are absorbed.
-/
import SA.Model.DnsExchange
namespace SA.DnsExchange

/-- a delivered try (in the script or beyond its end) ends the loop with success -/
theorem loop_delivered {test left : Nat} {fs : List Fate} {calls : Nat} {dlv : Bool}
    (h : fs[0]? = none ∨ fs[0]? = some .ok) : loop test (left + 1) fs calls dlv = ⟨calls + 1, true, true⟩ := by
  have : fs.head?.getD .ok = .ok := by cases fs with
    | nil => rfl
    | cons f fs => simpa using h
  simp only [loop, this]

/-- a recognised loss with tries left: the next try -/
theorem loop_loss {test left : Nat} {f : Fate} {fs : List Fate} {calls : Nat} {dlv : Bool} (ht : test = 1)
    (hf : f.isLoss = true) :
    loop test (left + 2) (f :: fs) calls dlv = loop test (left + 1) fs (calls + 1) (dlv || f == .al) := by
  subst ht
  cases f with
  | ql | al | st => rfl
  | ok | er => cases hf

theorem loop_absorbs {test : Nat} (ht : test = 1) :
    ∀ (k : Nat) (fs : List Fate) (left calls : Nat) (dlv : Bool), k < left → k ≤ fs.length →
      (∀ f ∈ fs.take k, f.isLoss = true) → (fs[k]? = none ∨ fs[k]? = some .ok) →
      loop test left fs calls dlv = ⟨calls + k + 1, true, true⟩
  | 0, _, _ + 1, _, _, _, _, _, hk => loop_delivered hk
  | k + 1, f :: fs, left + 2, calls, dlv, hl, hlen, hloss, hk => by
    rw [loop_loss ht (hloss f (by simp)), loop_absorbs ht k fs (left + 1) (calls + 1) _ (by omega) (by simpa using hlen)
      (fun g hg => hloss g (by simp [hg])) (by simpa using hk), Nat.add_right_comm calls 1 k]
    rfl

end SA.DnsExchange
