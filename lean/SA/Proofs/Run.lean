/-
  SA.Proofs.Run — the process models all run a schedule the same way: action by action, an action that is not
  enabled is skipped.  One induction over the schedule serves every invariant of every such model, also of those whose
  step is total (nothing is skipped) and of those written as a `List.foldl`.
-/
namespace SA

/-- `run` executes a schedule with `step`, skipping actions that are not enabled -/
structure SkipRun {σ α : Type} (step : σ → α → Option σ) (run : σ → List α → σ) : Prop where
  nil : ∀ s, run s [] = s
  cons : ∀ s a as, run s (a :: as) = run ((step s a).getD s) as

namespace SkipRun
variable {σ α : Type} {step : σ → α → Option σ} {run : σ → List α → σ}

theorem induct (hr : SkipRun step run) {P : σ → Prop} {Q : α → Prop}
    (hstep : ∀ {s s' : σ} {a : α}, Q a → P s → step s a = some s' → P s') {s : σ} (h : P s) (acts : List α)
    (hq : ∀ a ∈ acts, Q a) : P (run s acts) := by
  induction acts generalizing s with
  | nil => rw [hr.nil]; exact h
  | cons a as ih =>
    rw [hr.cons]
    refine ih ?_ fun b hb => hq b (List.mem_cons_of_mem _ hb)
    cases hs : step s a with
    | none => exact h
    | some s' => exact hstep (hq a List.mem_cons_self) h hs

theorem invariant (hr : SkipRun step run) {P : σ → Prop} (hstep : ∀ {s s' : σ} {a : α}, P s → step s a = some s' → P s')
    {s : σ} (h : P s) (acts : List α) : P (run s acts) :=
  hr.induct (Q := fun _ => True) (fun _ => hstep) h acts fun _ _ => trivial

theorem append (hr : SkipRun step run) (s : σ) (a b : List α) : run s (a ++ b) = run (run s a) b := by
  induction a generalizing s with
  | nil => rw [hr.nil]; rfl
  | cons x xs ih => rw [List.cons_append, hr.cons, hr.cons, ih]

/-- a run that applies a total step function to every action is a `SkipRun` in which nothing is skipped
    (`⟨fun _ => rfl, fun _ _ _ => rfl⟩`), so the same induction serves it -/
theorem induct_total {step : σ → α → σ} {run : σ → List α → σ} (hr : SkipRun (fun s a => some (step s a)) run)
    {P : σ → Prop} {Q : α → Prop} (hstep : ∀ {s : σ} {a : α}, Q a → P s → P (step s a)) {s : σ} (h : P s)
    (acts : List α) (hq : ∀ a ∈ acts, Q a) : P (run s acts) :=
  hr.induct (fun hq hp hs => Option.some.inj hs ▸ hstep hq hp) h acts hq

end SkipRun

theorem foldl_induct {σ α : Type} {f : σ → α → σ} {P : σ → Prop} {Q : α → Prop}
    (hstep : ∀ {s : σ} {a : α}, Q a → P s → P (f s a)) {s : σ} (h : P s) (as : List α) (hq : ∀ a ∈ as, Q a) :
    P (as.foldl f s) :=
  SkipRun.induct_total (run := fun s as => as.foldl f s) ⟨fun _ => rfl, fun _ _ _ => rfl⟩ hstep h as hq

theorem foldl_invariant {σ α : Type} {f : σ → α → σ} {P : σ → Prop} (hstep : ∀ {s : σ} {a : α}, P s → P (f s a))
    {s : σ} (h : P s) (as : List α) : P (as.foldl f s) :=
  foldl_induct (Q := fun _ => True) (fun _ => hstep) h as fun _ _ => trivial

end SA
