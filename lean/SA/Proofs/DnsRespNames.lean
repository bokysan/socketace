/-
  SA.Proofs.DnsRespNames — the name-carrying answer types (SRV, MX, CNAME), record by record.

  A payload piece without name syntax (no '.', no '\\') in front of a domain of plain labels
  (`DomainOk`, from C09) is put into a target name by the wrapper, packed into labels by miekg
  (modelled), printed with presentation escapes as `escJoin labels ++ "." ++ domain ++ "."`
  (`unpackName_chunks`), cut and unescaped by UnwrapDnsResponse (`nameData_cut`): the piece comes back
  (`rec_srv`, `rec_mx`, `rec_cname`).
-/
import SA.Proofs.DnsRespMulti

namespace SA.DnsResp
open SA.DnsWire SA.WireCodec SA.DnsReq

instance (c : List Nat) : Decidable (NameSafe c) := by unfold NameSafe; infer_instance

/-- `c` with `hc` as in `stripDomain_unpack` -/
theorem nameData_cut (chunks : List (List Nat)) (domain : List Nat) {c : List Nat} (hc : chunks.flatten = c)
    (hb : SA.Bytes c) :
    (stripNameTail (escJoin chunks ++ dot :: (domain ++ [dot])) domain.length).map nameData = some c := by
  subst hc
  rw [stripNameTail, if_neg (by simp), Nat.sub_sub, take_sub_append (by simp)]
  simp [nameData, gen_unwrapUnescapesNames, unescapePresentation, unescGo_escJoin chunks hb]

/-- `f` is the record around the target (`.mx pref`, `.cname`) -/
theorem host_over_wire (data domain host : List Nat) (dls : List (List Nat)) (hne : data ≠ []) (hs : NameSafe data)
    (hdom : DomainOk domain dls) (hfit : prepareHostname data domain = some host) (f : List Nat → RR) :
    (nameOverWire host).map (fun ls => f (unpackName ls))
      = .ok (f (escJoin (hostChunks data) ++ dot :: (domain ++ [dot]))) := by
  rw [prepareHostname_labels hne hs.noSyntax hdom hfit,
    ← unpackName_chunks _ dls domain (hostChunks_ne data) hdom]
  rfl

theorem rec_mx (domain : List Nat) (dls : List (List Nat)) (hdom : DomainOk domain dls)
    (o : Nat) (c : List Nat) (hne : c ≠ []) (hs : NameSafe c) (rr r' : RR)
    (hmk : (prepareHostname c domain).map (.mx ((o * 10) % 65536)) = some rr) (hw : rrOverWire rr = .ok r') :
    typePriority r' = some (tagKey .mx o) ∧ unwrapOne domain.length r' = some c := by
  obtain ⟨host, hfit, rfl⟩ := Option.map_eq_some_iff.mp hmk
  rw [rrOverWire, host_over_wire c domain host dls hne hs hdom hfit] at hw
  cases hw
  exact ⟨rfl, nameData_cut _ _ (hostChunks_flatten c) hs.bytes⟩

/-- the first label keeps the first two bytes together (`gen_stride_ge`) -/
theorem hostChunks_head (t0 t1 : Nat) (c : List Nat) :
    ∃ r more, hostChunks (t0 :: t1 :: c) = (t0 :: t1 :: r) :: more := by
  unfold hostChunks
  split
  · obtain ⟨k, hk⟩ := Nat.exists_eq_add_of_le (Nat.le_trans (by decide : 2 ≤ 57) gen_stride_ge)
    rw [List.length_cons, pieces, hk, Nat.add_comm 2 k]
    exact ⟨_, _, rfl⟩
  · exact ⟨c, [], rfl⟩

theorem escJoin_head (t0 t1 : Nat) (r : List Nat) (more : List (List Nat))
    (h0 : escNameByte t0 = [t0]) (h1 : escNameByte t1 = [t1]) :
    escJoin ((t0 :: t1 :: r) :: more) = t0 :: t1 :: escJoin (r :: more) := by
  cases more <;> simp [escJoin, h0, h1]

theorem rec_cname (domain : List Nat) (dls : List (List Nat)) (hdom : DomainOk domain dls)
    (o : Nat) (c : List Nat) (hs : NameSafe c) (rr r' : RR)
    (hmk : (prepareHostname (orderTag o ++ c) domain).map RR.cname = some rr) (hw : rrOverWire rr = .ok r') :
    typePriority r' = some (tagKey .cname o) ∧ unwrapOne domain.length r' = some c := by
  obtain ⟨host, hfit, rfl⟩ := Option.map_eq_some_iff.mp hmk
  rw [rrOverWire, host_over_wire _ domain host dls (by simp [orderTag])
    (List.forall_mem_append.mpr ⟨orderTag_safe o, hs⟩) hdom hfit] at hw
  cases hw
  have hflat := hostChunks_flatten (orderTag o ++ c)
  obtain ⟨r, more, hch⟩ := hostChunks_head (b32Char o) (b32Char (o / 16)) c
  rw [show orderTag o ++ c = b32Char o :: b32Char (o / 16) :: c from rfl, hch] at hflat ⊢
  rw [escJoin_head _ _ r more (escNameByte_b32Char _) (escNameByte_b32Char _)]
  refine ⟨rfl, ?_⟩
  rw [unwrapOne, if_neg (by simp)]
  exact nameData_cut (r :: more) domain (by simpa using hflat) hs.bytes

theorem packName_long (c rest : List Nat) (hs : NoSyntax c) (hlen : 64 ≤ c.length) :
    packName (c ++ dot :: rest) = none := by
  unfold packName
  rw [packLoop_plain c hs]
  have h1 : (dot == bsl) = false := by decide
  simp [packLoop, h1, hlen]

theorem rec_srv (domain : List Nat) (dls : List (List Nat)) (hdom : DomainOk domain dls)
    (o : Nat) (c : List Nat) (hne : c ≠ []) (hs : NameSafe c) (r' : RR)
    (hw : rrOverWire (.srv (o % 65536) (c ++ dot :: (domain ++ [dot]))) = .ok r') :
    typePriority r' = some (tagKey .srv o) ∧ unwrapOne domain.length r' = some c := by
  have hns := hs.noSyntax
  have hname : c ++ dot :: (domain ++ [dot]) = dotted (c :: dls) := by rw [dotted_cons, hdom.dotted_eq]
  -- the wire either refuses the target (label over 63, name over 255) or returns exactly these labels
  have hls : nameOverWire (c ++ dot :: (domain ++ [dot])) = .ok (c :: dls) := by
    by_cases hlong : 64 ≤ c.length
    · simp [rrOverWire, nameOverWire, packName_long c _ hns hlong, Except.map] at hw
    · have hpack := packName_dotted (c :: dls) fun l hl => by
        rcases List.mem_cons.mp hl with rfl | hl
        · exact ⟨hne, by omega, hns⟩
        · exact hdom.good l hl
      rw [rrOverWire, hname, nameOverWire, hpack] at hw
      rw [hname, nameOverWire, hpack]
      cases hbud : nameBudgetOk (c :: dls) with
      | false => simp [hbud, Except.map] at hw
      | true => simp [hbud]
  rw [rrOverWire, hls] at hw
  obtain rfl : RR.srv (o % 65536) (unpackName (c :: dls)) = r' := by simpa [Except.map] using hw
  refine ⟨rfl, ?_⟩
  rw [unwrapOne, show c :: dls = [c] ++ dls from rfl, unpackName_chunks [c] dls domain (by simp) hdom]
  exact nameData_cut [c] domain (by simp) hs.bytes

end SA.DnsResp
