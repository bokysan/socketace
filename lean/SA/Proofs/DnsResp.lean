/-
  SA.Proofs.DnsResp — every response decodes to itself; TXT strings survive Pack / Unpack / unescaping.

  As on the request side, a response on the wire is `code :: (pre ++ coded plain)` (`encodeResp_eq`): the command letter,
  for two commands something in clear behind it, and a plaintext body handed to Base32 or to the downstream codec.  The
  client's dispatch finds the command of the letter (`decodeResp_code`); what is left is one codec round trip
  (`plain_bytes`) and reading the status byte and the fields of the body.
-/
import SA.Proofs.DnsReq
import SA.Model.DnsResp

namespace SA.DnsResp
open SA.DnsWire SA.WireCodec SA.DnsReq

/-- an error text the protocol can carry: bytes, no NUL (the decoder reads it with ReadString(0)) -/
def ErrOk (e : List Nat) : Prop := SA.Bytes e ∧ e.contains 0 = false

instance (e : List Nat) : Decidable (ErrOk e) := by unfold ErrOk; infer_instance

def ErrOptOk (err : Option (List Nat)) : Prop := ∀ e, err = some e → ErrOk e

/-- field ranges, and the canonical form of an error response (an error response carries only the
    error: the other fields are not transmitted) -/
def RespOk : Resp → Prop
  | .version ver uid err => ver < 4294967296 ∧ uid < SA.Gen.C09.maxUserId ∧ ErrOptOk err
  | .options err => ErrOptOk err
  | .packet err ack pkt =>
    ErrOptOk err ∧ ack < 65536 ∧ (∀ p, pkt = some p → p.1 < 65536 ∧ SA.Bytes p.2) ∧ (err.isSome → ack = 0 ∧ pkt = none)
  | .downEnc err data => (∀ e, err = some e → SA.Bytes e) ∧ SA.Bytes data ∧ (err.isSome → data = [])
  | .upEnc err data => ErrOptOk err ∧ SA.Bytes data ∧ (err.isSome → data = [])
  | .fragSize err frag data => ErrOptOk err ∧ frag < 4294967296 ∧ SA.Bytes data ∧ (err.isSome → frag = 0 ∧ data = [])
  | .error err => ∃ e, err = some e ∧ ErrOk e

theorem errText_ok (e : List Nat) (h : ErrOk e) : errText e = some e := by
  unfold errText
  rw [h.2]
  simp

theorem withErr_ok {α : Type} (e : List Nat) (h : ErrOk e) (k : Option (List Nat) → α) : withErr e k = .ok (k (some e)) := by
  unfold withErr
  rw [h.2]
  simp

theorem parseUid36_digits (u : Nat) (h : u < SA.Gen.C09.maxUserId) :
    parseUid36 (base36Digit (u / 36)) (base36Digit (u % 36)) = some u := by
  rw [gen_maxUserId] at h
  have h1 : u / 36 < 36 := by omega
  have h2 : u % 36 < 36 := Nat.mod_lt _ (by decide)
  have hne : ¬ (base36Digit (u / 36) = 43 ∨ base36Digit (u / 36) = 45) := by
    have : 48 ≤ base36Digit (u / 36) := by unfold base36Digit; split <;> omega
    omega
  unfold parseUid36
  rw [if_neg hne, base36Val_digit _ h1, base36Val_digit _ h2]
  simp; omega

theorem statusBody_bytes (err : Option (List Nat)) (okBody : List Nat) (he : ErrOptOk err)
    (hb : SA.Bytes okBody) : SA.Bytes (statusBody err okBody) := by
  cases err with
  | none => exact hb
  | some e => exact bytes_cons (by decide) (he e rfl).1

/-- the command letter -/
def Resp.code : Resp → Nat
  | .version .. => 118
  | .options .. => 111
  | .packet .. => 99
  | .downEnc .. => 121
  | .upEnc .. => 122
  | .fragSize .. => 114
  | .error .. => 101

/-- what stands between the letter and the coded body: the user id (version), 'e' or 'o' (downstream probe) -/
def Resp.pre : Resp → List Nat
  | .version _ uid _ => encodeUserId uid
  | .downEnc (some _) _ => [101]
  | .downEnc none _ => [111]
  | _ => []

/-- what a response hands to its codec: the fields behind a status byte, or 255 and the error text -/
def Resp.plain : Resp → List Nat
  | .version ver _ err => le32 ver ++ statusBody err [0]
  | .options err => statusBody err [0]
  | .packet err ack pkt => statusBody err (match pkt with
    | some (seq, data) => 1 :: le16 ack ++ le16 seq ++ data
    | none => 0 :: le16 ack)
  | .downEnc (some e) _ => e
  | .downEnc none data => data
  | .upEnc err data => statusBody err (0 :: data)
  | .fragSize err frag data => statusBody err (0 :: le32 frag ++ data)
  | .error err => err.getD []

/-- the codec of a response's body: the downstream codec, or hard-wired Base32 -/
def Resp.coded (b32 down : Codec) : Resp → List Nat → List Nat
  | .packet .. | .downEnc none _ | .fragSize .. => down.enc
  | _ => b32.enc

theorem encodeResp_eq (b32 down : Codec) (r : Resp) :
    encodeResp b32 down r = r.code :: (r.pre ++ r.coded b32 down r.plain) := by
  cases r with
  | downEnc err => cases err <;> rfl
  | _ => rfl

theorem encodeResp_ne_nil (b32 down : Codec) (r : Resp) : encodeResp b32 down r ≠ [] := by
  simp [encodeResp_eq]

theorem decodeResp_code (b32 down : Codec) (r : Resp) (tail : List Nat) :
    decodeResp b32 down (r.code :: tail) = decodeBody b32 down r.code (r.code :: tail) := by
  cases r <;> rfl

theorem plain_bytes (r : Resp) (hr : RespOk r) : SA.Bytes r.plain := by
  cases r with
  | version ver uid err => simp [Resp.plain, statusBody_bytes err [0] hr.2.2]
  | options err => exact statusBody_bytes err [0] hr (by simp)
  | packet err ack pkt =>
    refine statusBody_bytes err _ hr.1 ?_
    cases pkt with
    | none => simp
    | some p => simpa using (hr.2.2.1 p rfl).2
  | downEnc err data =>
    cases err with
    | none => exact hr.2.1
    | some e => exact hr.1 e rfl
  | upEnc err data => exact statusBody_bytes err _ hr.1 (by simp [hr.2.1])
  | fragSize err frag data => exact statusBody_bytes err _ hr.1 (by simp [hr.2.2.1])
  | error err =>
    obtain ⟨e, rfl, he⟩ := hr
    exact he.1

theorem decodeResp_encodeResp (b32 down : Codec) (hb : b32.Good) (hd : down.Good) (r : Resp) (hr : RespOk r) :
    decodeResp b32 down (encodeResp b32 down r) = .ok r := by
  have hp := plain_bytes r hr
  rw [encodeResp_eq, decodeResp_code]
  cases r with
  | version ver uid err =>
    obtain ⟨hver, huid, herr⟩ := hr
    simp [decodeBody, Resp.code, Resp.pre, Resp.coded, encodeUserId, Nat.mod_eq_of_lt huid, parseUid36_digits uid huid,
      hb.roundtrip _ hp]
    cases err with
    | none => simp [Resp.plain, statusBody, rd32_le32 ver hver]
    | some e => simp [Resp.plain, statusBody, rd32_le32 ver hver, withErr_ok e (herr e rfl)]
  | options err =>
    simp [decodeBody, Resp.code, Resp.pre, Resp.coded, hb.roundtrip _ hp]
    cases err with
    | none => simp [Resp.plain, statusBody]
    | some e => simp [Resp.plain, statusBody, withErr_ok e (hr e rfl)]
  | packet err ack pkt =>
    obtain ⟨herr, hack, hpkt, hcanon⟩ := hr
    simp [decodeBody, Resp.code, Resp.pre, Resp.coded, hd.roundtrip _ hp]
    cases err with
    | some e => simp [Resp.plain, statusBody, withErr_ok e (herr e rfl), hcanon rfl]
    | none =>
      cases pkt with
      | none => simp [Resp.plain, statusBody, rd16_le16_nil ack hack]
      | some p => simp [Resp.plain, statusBody, rd16_le16 ack hack, rd16_le16 p.1 (hpkt p rfl).1]
  | downEnc err data =>
    cases err with
    | some e =>
      obtain rfl := hr.2.2 rfl
      simp [decodeBody, Resp.code, Resp.pre, Resp.coded, hb.roundtrip _ hp]
      rfl
    | none =>
      simp [decodeBody, Resp.code, Resp.pre, Resp.coded, hd.roundtrip _ hp]
      rfl
  | upEnc err data =>
    obtain ⟨herr, -, hcanon⟩ := hr
    simp [decodeBody, Resp.code, Resp.pre, Resp.coded, hb.roundtrip _ hp]
    cases err with
    | none => simp [Resp.plain, statusBody]
    | some e => simp [Resp.plain, statusBody, withErr_ok e (herr e rfl), hcanon rfl]
  | fragSize err frag data =>
    obtain ⟨herr, hfrag, -, hcanon⟩ := hr
    simp [decodeBody, Resp.code, Resp.pre, Resp.coded, hd.roundtrip _ hp]
    cases err with
    | none => simp [Resp.plain, statusBody, rd32_le32 frag hfrag]
    | some e => simp [Resp.plain, statusBody, withErr_ok e (herr e rfl), hcanon rfl]
  | error err =>
    obtain ⟨e, rfl, he⟩ := hr
    simp [decodeBody, Resp.code, Resp.pre, Resp.coded, hb.roundtrip _ hp]
    exact withErr_ok e he _

theorem escapeBackslashes_esc (b : Nat) : Esc false b (if b == bsl then [bsl, bsl] else [b]) := by
  split
  · rename_i h
    obtain rfl : b = bsl := by simpa using h
    exact .quoted (by decide)
  · rename_i h
    exact .plain (by simpa using h) (fun h => by cases h)

theorem txtToWire_escape (s : List Nat) : txtToWire (escapeBackslashes s) = s := by
  simpa [txtToWire, escapeBackslashes, txtToWireGo] using
    decode_flatMap (txtToWireGo 0) _ (· :: ·) s (fun b _ tl => txtToWireGo_esc (escapeBackslashes_esc b) tl) []

theorem unesc_txtFromWire (w : List Nat) (hw : SA.Bytes w) : unescapePresentation false (txtFromWire w) = w := by
  simpa [unescapePresentation, txtFromWire, unescGo] using
    decode_flatMap (unescGo false 0) _ (· :: ·) w (fun b hb tl => unescGo_esc (escTxtByte_esc (hw b hb)) tl) []

end SA.DnsResp
