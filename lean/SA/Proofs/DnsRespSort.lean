/-
  SA.Proofs.DnsRespSort — "sorting by the decoded order tag is the inverse of tagging".

  `SortSpec` is all Go's `sort.Slice` promises of a comparison sort by an integer key: the output is a
  permutation of the input and no element stands before one with a smaller key (it is *not* stable).  When the
  keys are pairwise distinct the sorted arrangement is unique, so any such sort maps any permutation of a list
  with strictly increasing keys back to that list (`sort_restores`), and all such sorts agree — which ties the
  model's insertion sort `sortByKey` to `sort.Slice`.

  For `UnwrapDnsResponse` the sort is a parameter (`unwrapWith`; the model's `unwrap` is `unwrapWith sortByKey`).
  `Tagged` says that a list of answer records carries the order tags o, o+1, … and the payload pieces `ds`;
  if the decoded tag is strictly increasing on the tags used, unwrapping ANY permutation of the records
  yields the concatenation of the pieces (`unwrap_tagged`).
-/
import SA.Model.DnsResp

namespace SA.DnsResp

/-- what a comparison sort by key guarantees (Go: `sort.Slice(xs, func(i,j) bool { key(xs[i]) < key(xs[j]) })`) -/
structure SortSpec {α : Type} (sort : List (Int × α) → List (Int × α)) : Prop where
  perm : ∀ xs, (sort xs).Perm xs
  sorted : ∀ xs, (sort xs).Pairwise (fun a b => a.1 ≤ b.1)

theorem SortSpec.strict {α : Type} {sort : List (Int × α) → List (Int × α)} (hs : SortSpec sort)
    {xs : List (Int × α)} (hd : xs.Pairwise (fun a b => a.1 ≠ b.1)) : (sort xs).Pairwise (fun a b => a.1 < b.1) :=
  ((hs.sorted xs).and (((hs.perm xs).pairwise_iff (fun h e => h e.symm)).mpr hd)).imp (fun h => by omega)

/-- the sorted output has the same (distinct) keys as `orig`, so it is strictly increasing too, and a strictly
    increasing arrangement of given elements is unique (`List.Perm.eq_of_pairwise`) -/
theorem sort_restores {α : Type} {sort : List (Int × α) → List (Int × α)} (hs : SortSpec sort)
    (orig xs : List (Int × α)) (hp : xs.Perm orig) (hinc : orig.Pairwise (fun a b => a.1 < b.1)) :
    sort xs = orig :=
  ((hs.perm xs).trans hp).eq_of_pairwise (fun a b _ _ h1 h2 => by omega)
    (hs.strict ((hp.pairwise_iff (fun h e => h e.symm)).mpr (hinc.imp (fun h => by omega)))) hinc

theorem sorts_agree {α : Type} {s₁ s₂ : List (Int × α) → List (Int × α)} (h₁ : SortSpec s₁) (h₂ : SortSpec s₂)
    (xs : List (Int × α)) (hd : xs.Pairwise (fun a b => a.1 ≠ b.1)) : s₁ xs = s₂ xs :=
  sort_restores h₁ (s₂ xs) xs (h₂.perm xs).symm (h₂.strict hd)

theorem insertByKey_perm (x : Int × RR) (l : List (Int × RR)) : (insertByKey x l).Perm (x :: l) := by
  induction l with
  | nil => exact List.Perm.refl _
  | cons y ys ih =>
    unfold insertByKey
    by_cases h : x.1 < y.1
    · simp only [h, if_true]; exact List.Perm.refl _
    · simp only [h, if_false]
      exact ((List.Perm.cons y ih).trans (List.Perm.swap x y ys))

theorem insertByKey_sorted (x : Int × RR) (l : List (Int × RR)) (hl : l.Pairwise (fun a b => a.1 ≤ b.1)) :
    (insertByKey x l).Pairwise (fun a b => a.1 ≤ b.1) := by
  induction l with
  | nil => simp [insertByKey]
  | cons y ys ih =>
    rw [List.pairwise_cons] at hl
    unfold insertByKey
    by_cases h : x.1 < y.1
    · simp only [h, if_true]
      refine List.pairwise_cons.mpr ⟨?_, List.pairwise_cons.mpr hl⟩
      intro z hz
      rcases List.mem_cons.mp hz with rfl | hz
      · omega
      · have := hl.1 z hz; omega
    · simp only [h, if_false]
      refine List.pairwise_cons.mpr ⟨?_, ih hl.2⟩
      intro z hz
      have hz' : z ∈ x :: ys := (insertByKey_perm x ys).subset hz
      rcases List.mem_cons.mp hz' with rfl | hz'
      · omega
      · exact hl.1 z hz'

theorem sortByKey_spec : SortSpec sortByKey where
  perm := by
    intro xs
    induction xs with
    | nil => exact List.Perm.refl _
    | cons x xs ih => exact (insertByKey_perm x _).trans (List.Perm.cons x ih)
  sorted := by
    intro xs
    induction xs with
    | nil => exact List.Pairwise.nil
    | cons x xs ih => exact insertByKey_sorted x _ ih

/-- `unwrap` with the sort as a parameter -/
def unwrapWith (sort : List (Int × RR) → List (Int × RR)) (domainLen : Nat) (answers : List RR) : Option (List Nat) :=
  match answers.mapM (fun r => (typePriority r).map (fun k => (k, r))) with
  | none => none
  | some keyed => ((sort keyed).mapM (fun kr => unwrapOne domainLen kr.2)).map List.flatten

theorem unwrap_eq_unwrapWith (L : Nat) (answers : List RR) : unwrap L answers = unwrapWith sortByKey L answers := rfl

theorem mapM_of_map {α β : Type} {f : α → Option β} {l : List α} {ys : List β} (h : l.map f = ys.map some) :
    l.mapM f = some ys := by
  induction l generalizing ys with
  | nil => cases ys <;> simp_all
  | cons a l ih =>
    cases ys with
    | nil => simp at h
    | cons y ys =>
      obtain ⟨h1, h2⟩ := List.cons.inj h
      simp [List.mapM_cons, h1, ih h2]

theorem map_eq_map_some {α β : Type} {f : α → Option β} {l : List α} {ys : List β} (h : l.map f = ys.map some) (d : β) :
    (∀ a ∈ l, f a = some ((f a).getD d)) ∧ l.map (fun a => (f a).getD d) = ys := by
  induction l generalizing ys with
  | nil => cases ys <;> simp_all
  | cons a l ih =>
    cases ys with
    | nil => simp at h
    | cons y ys =>
      obtain ⟨h1, h2⟩ := List.cons.inj h
      exact ⟨by simpa [h1] using (ih h2).1, by simp [h1, (ih h2).2]⟩

/-- `rs` carries the order tags o, o+1, … (as decoded by TypePriority: `kf o`, `kf (o+1)`, …) and the
    payload pieces `ds` (as extracted by UnwrapDnsResponse) -/
inductive Tagged (L : Nat) (kf : Nat → Int) : Nat → List RR → List (List Nat) → Prop
  | nil (o : Nat) : Tagged L kf o [] []
  | cons (o : Nat) (r : RR) (d : List Nat) (rs : List RR) (ds : List (List Nat)) :
      typePriority r = some (kf o) → unwrapOne L r = some d → Tagged L kf (o + 1) rs ds →
      Tagged L kf o (r :: rs) (d :: ds)

theorem Tagged.length_eq {L : Nat} {kf : Nat → Int} {o : Nat} {rs : List RR} {ds : List (List Nat)}
    (h : Tagged L kf o rs ds) : rs.length = ds.length := by
  induction h with
  | nil => rfl
  | cons _ _ _ _ _ _ _ _ ih => simp [ih]

theorem Tagged.keys {L : Nat} {kf : Nat → Int} {o : Nat} {rs : List RR} {ds : List (List Nat)}
    (h : Tagged L kf o rs ds) : rs.map typePriority = ((List.range' o rs.length).map kf).map some := by
  induction h with
  | nil => rfl
  | cons _ _ _ _ _ hk _ _ ih => simp [hk, ih, List.range'_succ]

theorem Tagged.payloads {L : Nat} {kf : Nat → Int} {o : Nat} {rs : List RR} {ds : List (List Nat)}
    (h : Tagged L kf o rs ds) : rs.map (unwrapOne L) = ds.map some := by
  induction h with
  | nil => rfl
  | cons _ _ _ _ _ _ hu _ ih => simp [hu, ih]

theorem unwrap_tagged {sort : List (Int × RR) → List (Int × RR)} (hs : SortSpec sort) (L : Nat) (kf : Nat → Int)
    (o : Nat) (rs : List RR) (ds : List (List Nat)) (ht : Tagged L kf o rs ds)
    (hmono : ∀ i j, o ≤ i → i < j → j < o + rs.length → kf i < kf j)
    (xs : List RR) (hp : xs.Perm rs) :
    unwrapWith sort L xs = some ds.flatten := by
  -- the sort sees the records in the order `xs`, so it needs the key as a function of the record
  -- (`map_eq_map_some`), not as the list `kf o, kf (o+1), …`
  obtain ⟨hk, hks⟩ := map_eq_map_some ht.keys 0
  have hinc : rs.Pairwise (fun a b => (typePriority a).getD 0 < (typePriority b).getD 0) := by
    rw [← List.pairwise_map (f := fun r => (typePriority r).getD 0) (R := (· < ·)), hks]
    exact List.pairwise_map.mpr (List.Pairwise.imp_of_mem (fun hi hj hij =>
      hmono _ _ (List.mem_range'_1.mp hi).1 hij (List.mem_range'_1.mp hj).2) List.pairwise_lt_range')
  have h1 : xs.mapM (fun r => (typePriority r).map (fun k => (k, r)))
      = some (xs.map (fun r => ((typePriority r).getD 0, r))) :=
    mapM_of_map (by
      rw [List.map_map]
      exact List.map_congr_left fun r hr => by rw [hk r (hp.subset hr)]; rfl)
  have h2 : sort (xs.map (fun r => ((typePriority r).getD 0, r))) = rs.map (fun r => ((typePriority r).getD 0, r)) :=
    sort_restores hs _ _ (hp.map _) (by rw [List.pairwise_map]; exact hinc)
  have h3 : (rs.map (fun r => ((typePriority r).getD 0, r))).mapM (fun kr => unwrapOne L kr.2) = some ds :=
    mapM_of_map (by rw [List.map_map]; exact ht.payloads)
  rw [unwrapWith, h1]
  simp only [h2, h3, Option.map_some]

/-- the same for the model's own `unwrap` -/
theorem unwrap_tagged' (L : Nat) (kf : Nat → Int) (o : Nat) (rs : List RR) (ds : List (List Nat))
    (ht : Tagged L kf o rs ds) (hmono : ∀ i j, o ≤ i → i < j → j < o + rs.length → kf i < kf j) :
    unwrap L rs = some ds.flatten :=
  unwrap_tagged sortByKey_spec L kf o rs ds ht hmono rs (List.Perm.refl _)

end SA.DnsResp
