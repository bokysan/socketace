/-
  SA.Proofs.Policy — lemmas about the connection-policy model (C16): what `open` does to the shared state, what a
  thread's steps can and cannot do, and the invariant of the shared state under every interleaving.
-/
import SA.Model.Policy
import SA.Proofs.Run
namespace SA.Policy

/-- what `open` leaves behind for the upstreams it passes over: physical connections closed or not as the facts say -/
def PassedOver (F : Facts) (L : List Phys) : Prop := ∀ p ∈ L, p.closed = F.closesFailed ∨ p.closed = F.closesRejected

theorem PassedOver.append {F : Facts} {L M : List Phys} (hL : PassedOver F L) (hM : PassedOver F M) :
    PassedOver F (L ++ M) :=
  fun p hp => (List.mem_append.mp hp).elim (hL p) (hM p)

theorem PassedOver.closed {F : Facts} {L : List Phys} (hL : PassedOver F L) (hf : F.closesFailed = true)
    (hr : F.closesRejected = true) : ∀ p ∈ L, p.closed = true :=
  fun p hp => by simpa [hf, hr] using hL p hp

/-- one upstream of `open`: a usable one is dialled and stored … -/
theorem openLoop_cons_usable (F : Facts) {ms : Bool} {phase : Nat} {u : Kind × Kind}
    (hu : usable ms (kindAt phase u) = true) (rest : List (Kind × Kind)) (i : Nat) (conns : List Phys) (dials : List Nat) :
    openLoop F ms phase (u :: rest) i conns dials
      = (conns ++ [{ up := i, cut := false, closed := false }], dials ++ [i], .opened conns.length) := by
  rw [openLoop]
  cases hk : kindAt phase u <;> simp only [hk, usable, Bool.false_eq_true] at hu ⊢
  case okPlain => rw [Bool.not_eq_eq_eq_not.mp hu]; rfl

/-- … any other is passed over and leaves behind at most one physical connection (none if the dial was refused) -/
theorem openLoop_cons_skip {F : Facts} (hd : F.deadline.isSome = true) {ms : Bool} {phase : Nat} {u : Kind × Kind}
    (hu : usable ms (kindAt phase u) = false) (rest : List (Kind × Kind)) (i : Nat) (conns : List Phys) (dials : List Nat) :
    ∃ x : List Phys, PassedOver F x ∧
      openLoop F ms phase (u :: rest) i conns dials = openLoop F ms phase rest (i + 1) (conns ++ x) (dials ++ [i]) := by
  obtain ⟨d, hd⟩ := Option.isSome_iff_exists.mp hd
  rw [openLoop]
  cases hk : kindAt phase u <;> simp only [hk, usable, hd, Bool.true_eq_false] at hu ⊢
  case refused => exact ⟨[], nofun, by simp⟩
  case silent => exact ⟨[_], by simp [PassedOver], rfl⟩
  case hsError => exact ⟨[_], by simp [PassedOver], rfl⟩
  case okPlain =>
    rw [Bool.not_eq_eq_eq_not.mp hu]
    exact ⟨[{ up := i, cut := false, closed := F.closesRejected }], by simp [PassedOver], rfl⟩

/-- `open`, with a handshake deadline: the upstreams in front of the first usable one are dialled in list order and
    passed over, each leaving behind at most one physical connection (`L`); the first usable one is dialled and
    stored; with none the whole list is dialled.  `open` never gets stuck. -/
theorem openLoop_spec (F : Facts) (ms : Bool) (phase : Nat) (hd : F.deadline.isSome = true)
    (ups : List (Kind × Kind)) (i : Nat) (conns : List Phys) (dials : List Nat) :
    ∃ L : List Phys, PassedOver F L ∧
      openLoop F ms phase ups i conns dials =
        match firstUsable ms phase ups with
        | some j => (conns ++ L ++ [{ up := i + j, cut := false, closed := false }], dials ++ List.range' i (j + 1),
            .opened (conns ++ L).length)
        | none => (conns ++ L, dials ++ List.range' i ups.length, .exhausted) := by
  induction ups generalizing i conns dials with
  | nil => exact ⟨[], nofun, by simp [openLoop, firstUsable]⟩
  | cons u rest ih =>
    rw [firstUsable]
    cases hu : usable ms (kindAt phase u)
    · obtain ⟨x, hx, h⟩ := openLoop_cons_skip hd hu rest i conns dials
      obtain ⟨L, hL, ih⟩ := ih (i + 1) (conns ++ x) (dials ++ [i])
      refine ⟨x ++ L, hx.append hL, ?_⟩
      rw [h, ih]
      cases firstUsable ms phase rest <;> simp [List.range'_succ, Nat.add_assoc, Nat.add_comm 1]
    · exact ⟨[], nofun, by simp [openLoop_cons_usable F hu, List.range']⟩

/-- the critical section of `Connect` when a new physical connection is needed: `open`, then the first usable upstream
    is stored and the thread goes on with it, or nothing is stored and the thread is done -/
theorem tEnter_open (F : Facts) (c : Cfg) (sh : Sh) (known : Bool) (a : Nat) (hd : F.deadline.isSome = true)
    (hb : sh.blocked = false) (hn : needOpen sh = true) :
    ∃ L : List Phys, PassedOver F L ∧
      tEnter F c sh (.start known a) = some (
        match firstUsable c.mustSecure sh.phase c.ups with
        | some j => ({ sh with conns := sh.conns ++ L ++ [{ up := j, cut := false, closed := false }],
                               dials := sh.dials ++ List.range (j + 1), stored := some (sh.conns ++ L).length },
                     .have known a (sh.conns ++ L).length)
        | none => ({ sh with conns := sh.conns ++ L, dials := sh.dials ++ List.range c.ups.length, stored := none },
                   .done .fail none)) := by
  obtain ⟨L, hL, h⟩ := openLoop_spec F c.mustSecure sh.phase hd c.ups 0 sh.conns sh.dials
  refine ⟨L, hL, ?_⟩
  cases hfu : firstUsable c.mustSecure sh.phase c.ups <;> rw [hfu] at h <;>
    simp [tEnter, hb, hn, h, List.range_eq_range']

theorem needOpen_eq_false {sh : Sh} :
    needOpen sh = false ↔ ∃ id p, sh.stored = some id ∧ sh.conns[id]? = some p ∧ p.closed = false := by
  unfold needOpen closedFlag
  cases hs : sh.stored with
  | none => simp
  | some id => cases hp : sh.conns[id]? <;> simp [hp]

/-- … and when the stored session passes the liveness test: the thread goes on with it, nothing changes -/
theorem tEnter_reuse (F : Facts) (c : Cfg) {sh : Sh} (known : Bool) (a : Nat) (hb : sh.blocked = false)
    {id : Nat} {p : Phys} (hs : sh.stored = some id) (hp : sh.conns[id]? = some p) (hcl : p.closed = false) :
    tEnter F c sh (.start known a) = some (sh, .have known a id) := by
  have hn : needOpen sh = false := needOpen_eq_false.mpr ⟨id, p, hs, hp, hcl⟩
  simp [tEnter, hb, hn, hs]

theorem physAlive_of {conns : List Phys} {id : Nat} {p : Phys} (hp : conns[id]? = some p) :
    physAlive conns id = (!p.cut && !p.closed) := by
  rw [physAlive, hp]

theorem physAlive_iff {conns : List Phys} {id : Nat} :
    physAlive conns id = true ↔ ∃ p, conns[id]? = some p ∧ p.cut = false ∧ p.closed = false := by
  unfold physAlive
  cases conns[id]? <;> simp

/-- `OpenStream` on a session whose connection is neither cut nor closed: a known channel is carried by it, an
    unknown one fails at the protocol selection; the session is left alone either way -/
theorem tStream_alive (F : Facts) {sh : Sh} (known : Bool) (a : Nat) {id : Nat} {p : Phys} (hp : sh.conns[id]? = some p)
    (hcut : p.cut = false) (hcl : p.closed = false) :
    tStream F sh (.have known a id)
      = some (sh, .done (if known then .up p.up else .fail) (if known then some id else none)) := by
  have h : physAlive sh.conns id = true := physAlive_iff.mpr ⟨p, hp, hcut, hcl⟩
  cases known <;> simp [tStream, h, hp]

theorem tStream_lost (F : Facts) {sh : Sh} (known : Bool) (a : Nat) {id : Nat} (h : physAlive sh.conns id = false) :
    tStream F sh (.have known a id) = some (sh, if F.discardOnLoss then .lost known a id else .done .fail none) := by
  cases hl : F.discardOnLoss <;> simp [tStream, h, hl]

/-- discard: the session the caller saw fail is closed and forgotten if it is still the stored one; then the retry
    decision -/
theorem tDiscard_lost (F : Facts) {sh : Sh} (known : Bool) (a id : Nat) (hb : sh.blocked = false) :
    tDiscard F sh (.lost known a id)
      = some (if sh.stored = some id then { sh with conns := closeAt sh.conns id, stored := none } else sh,
              if F.retry && a == 0 then .start known (a + 1) else .done .fail none) := by
  rw [tDiscard, if_neg (by simp [hb])]
  cases (F.retry && a == 0) <;> rfl

/-- what `List.findIdx?` finds, in the terms the statements about upstream lists use -/
theorem findIdx?_spec {α : Type} {p : α → Bool} {xs : List α} {j : Nat} (h : xs.findIdx? p = some j) :
    (∃ x, xs[j]? = some x ∧ p x = true) ∧ ∀ k x, k < j → xs[k]? = some x → p x = false := by
  obtain ⟨hj, hp, hlt⟩ := List.findIdx?_eq_some_iff_getElem.mp h
  refine ⟨⟨xs[j], List.getElem?_eq_getElem hj, hp⟩, fun k x hk hx => ?_⟩
  obtain ⟨hkl, rfl⟩ := List.getElem?_eq_some_iff.mp hx
  simpa using hlt k hk

theorem firstUsable_eq (ms : Bool) (phase : Nat) (ups : List (Kind × Kind)) :
    firstUsable ms phase ups = ups.findIdx? fun u => usable ms (kindAt phase u) := by
  induction ups with
  | nil => rfl
  | cons u rest ih => rw [firstUsable, ih, List.findIdx?_cons]

theorem firstUsable_isSome_iff (ms : Bool) (phase : Nat) (ups : List (Kind × Kind)) :
    (firstUsable ms phase ups).isSome = true ↔ ∃ u ∈ ups, usable ms (kindAt phase u) = true := by
  rw [firstUsable_eq, List.findIdx?_isSome, List.any_eq_true]

theorem tStep_done (F : Facts) (c : Cfg) (sh : Sh) (o : Out) (car : Option Nat) (k : TK) :
    tStep F c sh (.done o car) k = none := by
  cases k <;> rfl

/-- `soloRun` runs the schedule of one thread the way `run` runs everybody's -/
theorem soloRun_skipRun (F : Facts) (c : Cfg) :
    SkipRun (fun (s : Sh × Pc) k => tStep F c s.1 s.2 k) (fun s ks => soloRun F c s.1 s.2 ks) :=
  ⟨fun _ => rfl, fun s k ks => by
    show soloRun F c s.1 s.2 (k :: ks) = _
    rw [soloRun]
    cases tStep F c s.1 s.2 k <;> rfl⟩

theorem soloRun_stuck {F : Facts} {c : Cfg} {sh : Sh} {pc : Pc} (h : ∀ k, tStep F c sh pc k = none) (ks : List TK) :
    soloRun F c sh pc ks = (sh, pc) := by
  induction ks with
  | nil => rfl
  | cons k ks ih => rw [soloRun, h, ih]

theorem soloRun_done (F : Facts) (c : Cfg) (sh : Sh) (o : Out) (car : Option Nat) (ks : List TK) :
    soloRun F c sh (.done o car) ks = (sh, .done o car) :=
  soloRun_stuck (tStep_done F c sh o car) ks

theorem soloRun_enter {F : Facts} {c : Cfg} {sh sh' : Sh} {pc pc' : Pc} (h : tEnter F c sh pc = some (sh', pc'))
    (ks : List TK) : soloRun F c sh pc (.enter :: ks) = soloRun F c sh' pc' ks := by
  rw [soloRun, tStep, h]

theorem soloRun_stream {F : Facts} {c : Cfg} {sh sh' : Sh} {pc pc' : Pc} (h : tStream F sh pc = some (sh', pc'))
    (ks : List TK) : soloRun F c sh pc (.stream :: ks) = soloRun F c sh' pc' ks := by
  rw [soloRun, tStep, h]

theorem soloRun_discard {F : Facts} {c : Cfg} {sh sh' : Sh} {pc pc' : Pc} (h : tDiscard F sh pc = some (sh', pc'))
    (ks : List TK) : soloRun F c sh pc (.discard :: ks) = soloRun F c sh' pc' ks := by
  rw [soloRun, tStep, h]

theorem connect_eq_soloRun (F : Facts) {c : Cfg} (hfw : directUsable c.fwd = false) (sh : Sh) (known : Bool) :
    connect F c sh known =
      match soloRun F c sh (.start known 0) solo with
      | (sh', .done o car) => (sh', o, car)
      | (sh', _) => (sh', .blocked, none) := by
  rw [connect, if_neg (by simp [hfw])]
  rfl

theorem connect_of_soloRun {F : Facts} {c : Cfg} {sh sh' : Sh} {known : Bool} {o : Out} {car : Option Nat}
    (hfw : directUsable c.fwd = false) (h : soloRun F c sh (.start known 0) solo = (sh', .done o car)) :
    connect F c sh known = (sh', o, car) := by
  rw [connect_eq_soloRun F hfw, h]

theorem tStep_start_blocked (F : Facts) (c : Cfg) {sh : Sh} (hb : sh.blocked = true) (known : Bool) (a : Nat) (k : TK) :
    tStep F c sh (.start known a) k = none := by
  cases k
  · rw [tStep, tEnter, if_pos hb]   -- enter: not enabled
  · rfl                             -- stream, discard: not what the thread waits for
  · rfl

/-- once the mutex is held for ever, every local connection that needs an upstream blocks (any facts) -/
theorem blocked_forever (F : Facts) (c : Cfg) (sh : Sh) (known : Bool) (hfw : directUsable c.fwd = false)
    (hb : sh.blocked = true) : connect F c sh known = (sh, .blocked, none) := by
  rw [connect_eq_soloRun F hfw, soloRun_stuck (tStep_start_blocked F c hb known 0)]

/-- no step inside `Connect` ends a local connection as served directly: each branch ends otherwise -/
theorem tStep_not_direct (F : Facts) (c : Cfg) (sh sh' : Sh) (pc : Pc) (k : TK) (car : Option Nat) :
    tStep F c sh pc k ≠ some (sh', .done .direct car) := by
  cases k <;> cases pc <;> simp only [tStep, tEnter, tStream, tDiscard]
  case enter.start =>
    split
    · nofun                 -- the mutex is held for ever: not enabled
    · split
      · split <;> nofun     -- `open`: `.have`, `.done .fail` or `.done .blocked`
      · split <;> nofun     -- reuse: `.have`
  case stream.have =>
    split
    · split
      · split <;> nofun     -- known channel: `.done (.up _)`
      · nofun               -- unknown channel: `.done .fail`
    · split <;> nofun       -- lost session: `.lost` or `.done .fail`
  case discard.lost =>
    split
    · nofun                 -- the mutex is held for ever: not enabled
    · split <;> nofun       -- `.start` (one more round) or `.done .fail`
  all_goals nofun           -- the step is not the one this point of the thread waits for

theorem soloRun_never_direct (F : Facts) (c : Cfg) (ks : List TK) (sh : Sh) (pc : Pc)
    (h : ∀ car, pc ≠ .done .direct car) (car : Option Nat) : (soloRun F c sh pc ks).2 ≠ .done .direct car :=
  (soloRun_skipRun F c).invariant (P := fun s => ∀ car, s.2 ≠ .done .direct car)
    (fun {s s' k} _ hs car e => tStep_not_direct F c s.1 s'.1 s.2 k car (by rw [hs, ← e]))
    (s := (sh, pc)) h ks car

/-- `OpenStream` and the protocol selection leave what the local connections share alone -/
theorem tStream_sh {F : Facts} {sh sh' : Sh} {pc pc' : Pc} (h : tStream F sh pc = some (sh', pc')) : sh' = sh := by
  cases pc with
  | «have» known a id =>
    cases ha : physAlive sh.conns id
    · rw [tStream_lost F known a ha] at h; cases h; rfl
    · obtain ⟨p, hp, hcut, hcl⟩ := physAlive_iff.mp ha
      rw [tStream_alive F known a hp hcut hcl] at h; cases h; rfl
  | _ => cases h

/-- a physical connection the client has not closed is the stored one -/
def Inv (sh : Sh) : Prop := ∀ k p, sh.conns[k]? = some p → p.closed = false → sh.stored = some k

theorem needOpen_all_closed {sh : Sh} (hI : Inv sh) (hn : needOpen sh = true) : ∀ p ∈ sh.conns, p.closed = true := by
  intro p hp
  obtain ⟨k, hk⟩ := List.getElem?_of_mem hp
  cases hc : p.closed with
  | true => rfl
  | false => rw [needOpen_eq_false.mpr ⟨k, p, hI k p hk hc, hk, hc⟩] at hn; cases hn

theorem inv_of_all_closed {sh : Sh} (h : ∀ p ∈ sh.conns, p.closed = true) : Inv sh := by
  intro k p hk hp
  have := h p (List.mem_of_getElem? hk)
  simp [this] at hp

theorem getElem?_concat_unclosed {conns : List Phys} {q : Phys} (hall : ∀ p ∈ conns, p.closed = true)
    {k : Nat} {p : Phys} (h : (conns ++ [q])[k]? = some p) (hp : p.closed = false) : k = conns.length := by
  rw [List.getElem?_append] at h
  split at h
  · have := hall p (List.mem_of_getElem? h)
    simp [this] at hp
  · have : k - conns.length = 0 ∧ q = p := by simpa [List.getElem?_singleton] using h
    omega

theorem closeAt_getElem? (conns : List Phys) (id k : Nat) :
    (closeAt conns id)[k]? = (conns[k]?).map (fun p => if id = k then { p with closed := true } else p) := by
  unfold closeAt
  rw [List.getElem?_modify]
  by_cases h : id = k <;> simp [h]

/-- closing the stored session and forgetting it (discard, Shutdown) leaves no connection unclosed -/
theorem closeStored_inv {sh : Sh} (hI : Inv sh) {id : Nat} (hs : sh.stored = some id) :
    Inv { sh with conns := closeAt sh.conns id, stored := none } := by
  refine inv_of_all_closed fun p hp => ?_
  obtain ⟨k, hk⟩ := List.getElem?_of_mem hp
  rw [closeAt_getElem?, Option.map_eq_some_iff] at hk
  obtain ⟨p0, h0, rfl⟩ := hk
  split
  · rfl
  · rename_i hik
    cases hc : p0.closed with
    | true => rfl
    | false => exact absurd (Option.some.inj ((hI k p0 h0 hc).symm.trans hs)).symm hik

theorem tStep_inv (F : Facts) (c : Cfg) (hf : F.closesFailed = true) (hr : F.closesRejected = true)
    (hd : F.deadline.isSome = true) {sh sh' : Sh} {pc pc' : Pc} {k : TK} (hI : Inv sh ∧ sh.blocked = false)
    (h : tStep F c sh pc k = some (sh', pc')) : Inv sh' ∧ sh'.blocked = false := by
  obtain ⟨hI, hb⟩ := hI
  cases k with
  | stream => rw [tStream_sh h]; exact ⟨hI, hb⟩
  | enter =>
    cases pc with
    | start known a =>
      cases hn : needOpen sh
      · obtain ⟨id, p, hs, hp, hcl⟩ := needOpen_eq_false.mp hn
        rw [tStep, tEnter_reuse F c known a hb hs hp hcl] at h
        cases h
        exact ⟨hI, hb⟩
      · -- `open`: what was there is closed, what is passed over is closed; only the stored one is not
        obtain ⟨L, hL, he⟩ := tEnter_open F c sh known a hd hb hn
        have hall : ∀ p ∈ sh.conns ++ L, p.closed = true := fun p hp =>
          (List.mem_append.mp hp).elim (needOpen_all_closed hI hn p) (hL.closed hf hr p)
        rw [tStep, he] at h
        cases hfu : firstUsable c.mustSecure sh.phase c.ups <;> rw [hfu] at h <;> cases h
        · exact ⟨inv_of_all_closed hall, hb⟩
        · exact ⟨fun k p hk hp => congrArg some (getElem?_concat_unclosed hall hk hp).symm, hb⟩
    | _ => cases h
  | discard =>
    cases pc with
    | lost known a id =>
      rw [tStep, tDiscard_lost F known a id hb] at h
      cases h
      split
      · exact ⟨closeStored_inv hI ‹_›, hb⟩
      · exact ⟨hI, hb⟩
    | _ => cases h

theorem envCut_inv {sh : Sh} (hI : Inv sh) : Inv (envCut sh) := by
  intro k p hk hp
  rw [envCut, List.getElem?_map, Option.map_eq_some_iff] at hk
  obtain ⟨p0, h0, rfl⟩ := hk
  exact hI k p0 h0 hp

theorem envClose_inv {sh : Sh} (hI : Inv sh ∧ sh.blocked = false) : Inv (envClose sh) ∧ (envClose sh).blocked = false := by
  rw [envClose, if_neg (by simp [hI.2])]
  split
  · exact ⟨closeStored_inv hI.1 ‹_›, hI.2⟩
  · exact hI

theorem step_inv (F : Facts) (c : Cfg) (hf : F.closesFailed = true) (hr : F.closesRejected = true)
    (hd : F.deadline.isSome = true) {s s' : St} {a : Act} (hI : Inv s.sh ∧ s.sh.blocked = false)
    (h : step F c s a = some s') : Inv s'.sh ∧ s'.sh.blocked = false := by
  cases a <;> simp only [step] at h
  case spawn => split at h <;> cases h <;> exact hI
  case cut | restart => cases h; exact ⟨envCut_inv hI.1, hI.2⟩
  case close => cases h; exact envClose_inv hI
  case thread t k =>
    split at h
    · obtain ⟨⟨sh', pc'⟩, hstep, rfl⟩ := Option.map_eq_some_iff.mp h
      exact tStep_inv F c hf hr hd hI hstep
    · cases h

theorem run_skipRun (F : Facts) (c : Cfg) : SkipRun (step F c) (run F c) :=
  ⟨fun _ => rfl, fun s a as => by rw [run]; cases step F c s a <;> rfl⟩

/-- with failed and rejected connections closed and a handshake deadline: under every interleaving of any number of
    Connects with cuts, restarts and Shutdowns, a connection the client has not closed is the stored one, and no
    Connect stays in its critical section for ever -/
theorem run_inv (F : Facts) (c : Cfg) (hf : F.closesFailed = true) (hr : F.closesRejected = true)
    (hd : F.deadline.isSome = true) (acts : List Act) :
    Inv (run F c init acts).sh ∧ (run F c init acts).sh.blocked = false :=
  (run_skipRun F c).invariant (step_inv F c hf hr hd) ⟨fun _ _ hk => by simp [init, Sh.init] at hk, rfl⟩ acts

theorem filter_length_le_one {α : Type} (P : α → Bool) (l : List α) (id : Nat)
    (h : ∀ k a, l[k]? = some a → P a = true → k = id) : (l.filter P).length ≤ 1 := by
  induction l generalizing id with
  | nil => simp
  | cons a l ih =>
    rw [List.filter_cons]
    split
    · -- `a` is the one: position 0 is `id`, so nothing in `l` qualifies
      have h0 := h 0 a rfl ‹_›
      have : l.filter P = [] := List.filter_eq_nil_iff.mpr fun b hb hPb => by
        obtain ⟨k, hk⟩ := List.getElem?_of_mem hb
        have := h (k + 1) b (by simpa using hk) hPb
        omega
      simp [this]
    · exact ih (id - 1) fun k b hk hb => by
        have := h (k + 1) b (by simpa using hk) hb
        omega

theorem all_cut_after_loss (sh : Sh) (restart : Bool) :
    ∀ (k : Nat) (p : Phys), (if restart then envRestart sh else envCut sh).conns[k]? = some p → p.cut = true := by
  intro k p hk
  have e : (if restart then envRestart sh else envCut sh).conns = sh.conns.map fun p => { p with cut := true } := by
    cases restart <;> rfl
  rw [e, List.getElem?_map, Option.map_eq_some_iff] at hk
  obtain ⟨p0, -, rfl⟩ := hk
  rfl

/-- every way a dial can go wrong — nobody listens, the certificate does not carry the name — ends in a kind that is
    not usable under required security; only the live, verifiable upstream is `okSecure` -/
theorem UpDesc.usable_kind (d : UpDesc) (live : Bool) : Policy.usable true (d.kind live) = d.usable live := by
  unfold UpDesc.kind UpDesc.usable
  cases live <;> cases h : certCovers d.cert d.byName <;> simp [Policy.usable]
  by_cases hc : d.carrier = "starttls" <;> simp [hc]

theorem firstUsable_descScripts (lost : Option Nat) (after : Bool) (ds : List UpDesc) (i : Nat) :
    firstUsable true (if after then 1 else 0) (descScripts lost ds i) = firstDesc lost after ds i := by
  induction ds generalizing i with
  | nil => simp [descScripts, firstUsable, firstDesc]
  | cons d ds ih =>
    simp only [descScripts, firstUsable, firstDesc, ih]
    cases after <;> simp [kindAt, UpDesc.usable_kind]

theorem firstDesc_eq (ds : List UpDesc) (i : Nat) :
    firstDesc none false ds i = ds.findIdx? fun d => d.usable d.live := by
  induction ds generalizing i with
  | nil => rfl
  | cons d ds ih => simp [firstDesc, ih, List.findIdx?_cons]

end SA.Policy
