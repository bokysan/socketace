/-
  SA.Proofs.DnsDecode — the request decoders of the DNS server (commands/*.go as modelled in SA.Model.DnsServer), apart
  from any server state: none of them can panic (C12), and what a decoded request can be (`Decoded`).
-/
import SA.Model.DnsServer

namespace SA.DnsServer
open SA.Go SA.Go.Res

theorem Codec.decode_total {cd : Codec} (h : cd.Total) (c : Nat) (i : List Nat) : cd.decode c i = .ok (cd.dec c i) := by
  unfold Codec.decode; rw [h c i]; rfl

/-- what `Command.IsOfType` answers: is the first byte the letter, as it stands or lower-cased -/
def ofType (code : Nat) : List Nat → Bool
  | [] => false
  | b :: _ => b = code || lowerFirst b = code

theorem isOfType_eq (code : Nat) (data : List Nat) : isOfType code data = ok (ofType code data) := by
  cases data with
  | nil => rfl
  | cons b r => by_cases h : b = code <;> simp [isOfType, ofType, idx, slice, h]

theorem findCmd_eq (req : List Nat) : ∀ tbl : List (Nat × Bool × Bool × Bool),
    findCmd tbl req = ok (tbl.find? fun c => ofType c.1 req)
  | [] => rfl
  | c :: cs => by
    simp only [findCmd, isOfType_eq, Res.bind_ok, List.find?_cons]
    cases ofType c.1 req
    · exact findCmd_eq req cs
    · rfl

theorem stripDomain_no_panic (data dom : List Nat) : ∃ r, stripDomain data dom = ok r := by
  unfold stripDomain
  dsimp only
  split
  · rw [slice_ok (Nat.zero_le _) (Nat.sub_le _ _)]; exact ⟨_, rfl⟩
  · exact ⟨_, rfl⟩

theorem digit36_lt {c d : Nat} (h : digit36 c = some d) : d < 36 := by
  unfold digit36 at h
  split at h
  · cases h; omega
  split at h
  · cases h; omega
  split at h
  · cases h; omega
  · cases h

/-- the session tables have one slot per two-digit base-36 identifier -/
theorem gen_maxUsers : SA.Gen.maxUsers = 36 * 36 := rfl

theorem parse36_lt {s : List Nat} {u : Nat} (h : parse36 s = some u) : u < SA.Gen.maxUsers := by
  unfold parse36 at h
  split at h
  · simp only [Option.bind_eq_bind, Option.bind_eq_some_iff, Option.pure_def, Option.some.injEq] at h
    obtain ⟨x, hx, y, hy, rfl⟩ := h
    have := digit36_lt hx
    have := digit36_lt hy
    rw [gen_maxUsers]
    omega
  · cases h

/-- `DecodeRequestHeader` slices only after its length tests: four bytes (letter and cache-buster), then, for a command
    that needs one, the two digits of the user id -/
theorem decodeHeader_eq (needsUser : Bool) (req : List Nat) : decodeHeader needsUser req = ok
    (if req.length < 4 then none
     else if needsUser then
       if (req.drop 4).length < 2 then none
       else (parse36 ((req.drop 4).take 2)).map fun uid => ((req.drop 4).drop 2, uid)
     else some (req.drop 4, 0)) := by
  unfold decodeHeader
  split
  · rfl
  next h4 =>
  rw [sliceFrom_ok (Nat.le_of_not_lt h4), Res.bind_ok]
  cases needsUser with
  | false => rfl
  | true =>
    simp only [ite_true]
    split
    · rfl
    next h2 =>
    rw [slice_ok (Nat.zero_le _) (Nat.le_of_not_lt h2), sliceFrom_ok (Nat.le_of_not_lt h2), Res.bind_ok, List.drop_zero]
    cases parse36 ((req.drop 4).take 2) <;> rfl

theorem decodeHeader_no_panic (needsUser : Bool) (req : List Nat) : ∃ r, decodeHeader needsUser req = ok r :=
  ⟨_, decodeHeader_eq ..⟩

/-- a header's user id indexes the session tables: 0 for a command without one, two base-36 digits otherwise -/
theorem decodeHeader_uid_lt {needsUser : Bool} {req rest : List Nat} {uid : Nat}
    (h : decodeHeader needsUser req = ok (some (rest, uid))) : uid < SA.Gen.maxUsers := by
  rw [decodeHeader_eq] at h
  injection h with h
  split at h
  · cases h
  split at h
  · split at h
    · cases h
    · obtain ⟨u, hu, e⟩ := Option.map_eq_some_iff.mp h
      cases e
      exact parse36_lt hu
  · cases h; decide

def Req.uid? : Req → Option Nat
  | .version _ => none
  | .options u _ => some u
  | .fragTest u _ => some u
  | .downTest _ => none
  | .upTest u _ => some u
  | .packet u _ _ => some u

theorem Codec.eq_dec_of_decode_ok {cd : Codec} {c : Nat} {i : List Nat} {r : Option (List Nat)} (h : cd.decode c i = ok r) :
    r = cd.dec c i := by
  unfold Codec.decode at h
  split at h <;> cases h
  rfl

theorem decodeOptionsBody_some {uid : Nat} {d : List Nat} {q : Req} (h : decodeOptionsBody uid d = some q) : ∃ o, q = .options uid o := by
  unfold decodeOptionsBody at h
  split at h
  iterate 3 · cases h; exact ⟨_, rfl⟩
  -- the long form: five reads, each `none` when it fails, then the one `some`
  iterate 5 (split at h; · cases h)
  cases h; exact ⟨_, rfl⟩

theorem le16_some : ∀ {b r : List Nat} {v : Nat}, le16 b = some (v, r) → ∃ x y, b = x :: y :: r ∧ v = x + 256 * y
  | x :: y :: _, _, _, h => by cases h; exact ⟨x, y, rfl, rfl⟩
  | [], _, _, h | [_], _, _, h => nomatch h

theorem decodePacketBody_some {uid : Nat} {d : List Nat} {q : Req} (h : decodePacketBody uid d = some q) :
    ∃ a p, q = .packet uid a p ∧ ((∀ x ∈ d, x < 256) → ∀ x, p = some x → x.1 < 65536) := by
  unfold decodePacketBody at h
  split at h
  · cases h
  next ack r h1 =>
  obtain ⟨_, _, rfl, _⟩ := le16_some h1
  split at h
  · cases h
  split at h
  · split at h
    · cases h
    next seq data h2 =>
    obtain ⟨x, y, rfl, rfl⟩ := le16_some h2
    cases h
    refine ⟨_, _, rfl, ?_⟩
    rintro hb _ ⟨⟩
    have := hb x (by simp)
    have := hb y (by simp)
    show x + 256 * y < 65536
    omega
  · cases h; exact ⟨_, _, rfl, fun _ _ h => nomatch h⟩

/-- **what a decoded request can be**: its kind is the command's, its user id the header's (`uid`; `rest` is the body
    after the header, `up` the upstream codec).  The command letters: 118 'v' version, 111 'o' set-options, 114 'r'
    fragment-size test, 121 'y' downstream-codec test, 122 'z' upstream-codec test, 99 'c' packet. -/
inductive Decoded (cd : Codec) (up uid : Nat) (rest : List Nat) : Nat → Req → Prop where
  | version (v : Nat) : Decoded cd up uid rest 118 (.version v)
  | options (o : Options) : Decoded cd up uid rest 111 (.options uid o)
  | fragTest (n : Nat) : Decoded cd up uid rest 114 (.fragTest uid n)
  | downTest (c : Nat) : Decoded cd up uid rest 121 (.downTest c)
  | upTest : Decoded cd up uid rest 122 (.upTest uid rest)
  | packet (d : List Nat) (a : Nat) (p : Option (Nat × List Nat)) : cd.dec up rest = some d →
      decodePacketBody uid d = some (.packet uid a p) → Decoded cd up uid rest 99 (.packet uid a p)

theorem decodeRequest_some {cd : Codec} {code : Nat} {nu : Bool} {up : Nat} {req rest : List Nat} {uid : Nat} {q : Req}
    (hh : decodeHeader nu req = ok (some (rest, uid))) (h : decodeRequest cd code nu true up req = ok (some q)) :
    Decoded cd up uid rest code q := by
  unfold decodeRequest at h
  simp only [callField, ite_true, Res.bind_ok, hh] at h
  -- every branch but 'y' and 'z' is `decode` followed by a pure parser
  have key : ∀ {c : Nat} {f : List Nat → Option Req}, (cd.decode c rest >>= fun r => pure (r.bind f)) = ok (some q) →
      ∃ d, cd.dec c rest = some d ∧ f d = some q := by
    intro c f h
    cases hd : cd.decode c rest with
    | panic => simp [hd] at h
    | ok r =>
      rw [Codec.eq_dec_of_decode_ok hd] at hd
      simp only [hd, Res.bind_ok, Res.pure_eq, Res.ok.injEq, Option.bind_eq_some_iff] at h
      exact h
  rcases Res.ite_eq h with ⟨hc, h⟩ | ⟨_, h⟩
  · obtain ⟨d, _, hq⟩ := key h
    obtain ⟨p, _, rfl⟩ := Option.map_eq_some_iff.mp hq
    subst hc; exact .version _
  rcases Res.ite_eq h with ⟨hc, h⟩ | ⟨_, h⟩
  · obtain ⟨d, _, hq⟩ := key h
    obtain ⟨o, rfl⟩ := decodeOptionsBody_some hq
    subst hc; exact .options o
  rcases Res.ite_eq h with ⟨hc, h⟩ | ⟨_, h⟩
  · obtain ⟨d, _, hq⟩ := key h
    obtain ⟨p, _, rfl⟩ := Option.map_eq_some_iff.mp hq
    subst hc; exact .fragTest _
  rcases Res.ite_eq h with ⟨hc, h⟩ | ⟨_, h⟩
  · rcases Res.ite_eq h with ⟨_, h⟩ | ⟨he, h⟩
    · cases h
    · rw [idx_ok (Nat.pos_of_ne_zero he)] at h
      obtain ⟨c', _, rfl⟩ := Option.map_eq_some_iff.mp (Res.ok.inj h)
      subst hc; exact .downTest _
  rcases Res.ite_eq h with ⟨hc, h⟩ | ⟨_, h⟩
  · cases h; subst hc; exact .upTest
  rcases Res.ite_eq h with ⟨hc, h⟩ | ⟨_, h⟩
  · obtain ⟨d, hd, hq⟩ := key h
    obtain ⟨a, p, rfl, _⟩ := decodePacketBody_some hq
    subst hc; exact .packet d a p hd hq
  · cases h

/-- with total decoders every branch of `DecodeDnsRequest` returns: the only index, `body[0]` of 'y', is guarded -/
theorem decodeRequest_no_panic {cd : Codec} (hT : cd.Total) (code : Nat) {nu : Bool} (up : Nat) {req rest : List Nat} {uid : Nat}
    (hh : decodeHeader nu req = ok (some (rest, uid))) : ∃ r, decodeRequest cd code nu true up req = ok r := by
  unfold decodeRequest
  simp only [callField, ite_true, Res.bind_ok, hh, Codec.decode_total hT]
  refine Res.ite_no_panic ⟨_, rfl⟩ (Res.ite_no_panic ⟨_, rfl⟩ (Res.ite_no_panic ⟨_, rfl⟩ (Res.ite_no_panic ?_ (Res.ite_no_panic ⟨_, rfl⟩ (Res.ite_no_panic ⟨_, rfl⟩ ⟨_, rfl⟩)))))
  by_cases he : rest.length = 0
  · exact ⟨_, if_pos he⟩
  · exact ⟨_, by rw [if_neg he, idx_ok (Nat.pos_of_ne_zero he)]; rfl⟩

theorem decodeRequest_uid {cd : Codec} {code : Nat} {nu : Bool} {up : Nat} {req rest : List Nat} {uid : Nat} {q : Req}
    (hh : decodeHeader nu req = ok (some (rest, uid))) (h : decodeRequest cd code nu true up req = ok (some q)) :
    q.uid? = if code = 118 ∨ code = 121 then none else some uid := by
  cases decodeRequest_some hh h <;> rfl

/-- 118 = 'v' (version), 121 = 'y' (downstream-codec test) -/
theorem gen_needsUser_codes : ∀ c ∈ SA.Gen.commandTable, c.2.1 = true → c.1 ≠ 118 ∧ c.1 ≠ 121 := by decide

end SA.DnsServer
