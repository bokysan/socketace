/-
  The read path of SA.Model.Framing as a stack of layers (C01).

  A layer is a `Reader`: what one read hands over and what the layer still owes.  `Reader.Lawful` is the stream contract;
  `Reader.Conserves` is its first half, which a layer that may stall still keeps.  What sits on top of a layer is written
  once against these: `Reader.copy` (io.CopyBuffer; `Reader.copyDbg` in debug mode) and `Reader.buffered` (bufio.Reader;
  `buffered_read` lists the three ways one of its reads goes) here, `C01_copy_loop_preserves` and `C01_buffered_lawful`
  in Props/C01.  To add a layer, give its `Reader` and prove `Lawful` (or `Conserves`); to tie a function of the model
  to the stack, show it equal to the generic one (`copyLoop_eq_copy`, `bufRead_eq_buffered`,
  `wsBufRead_ok_eq_buffered`).  The two layers at the bottom: `srcReader` (a stream transport; lawful) and `wsReader`
  (the websocket reader that keeps the tail; it conserves, but an empty message yields no bytes while content is owed).
-/
import SA.Model.Framing
namespace SA.Framing

/-- a reader layer: `read s n` = the bytes handed over and the next state; `content` = bytes it still owes -/
structure Reader (σ : Type) where
  read : σ → Nat → List Nat × σ
  content : σ → List Nat

/-- stream contract: a read hands over a prefix of what is owed (nothing lost, duplicated, reordered)
    and makes progress while something is owed -/
def Reader.Lawful {σ : Type} (r : Reader σ) : Prop :=
  (∀ s n, (r.read s n).1 ++ r.content (r.read s n).2 = r.content s) ∧
  (∀ s n, 0 < n → r.content s ≠ [] → (r.read s n).1 ≠ [])

/-- the first half of the contract, which layers that may stall (the websocket reader on an empty message) still keep -/
def Reader.Conserves {σ : Type} (r : Reader σ) : Prop :=
  ∀ s n, (r.read s n).1 ++ r.content (r.read s n).2 = r.content s

theorem Reader.Lawful.conserves {σ : Type} {r : Reader σ} (hl : r.Lawful) : r.Conserves := hl.1

theorem Reader.Lawful.progress {σ : Type} {r : Reader σ} (hl : r.Lawful) {s : σ} {n : Nat} (hn : 0 < n)
    (hc : r.content s ≠ []) : (r.read s n).1 ≠ [] := hl.2 s n hn hc

/-- io.CopyBuffer over any reader: the list of chunks written -/
def Reader.copy {σ : Type} (r : Reader σ) (bufSize : Nat) : Nat → σ → List (List Nat)
  | 0, _ => []
  | fuel + 1, s =>
      let x := r.read s bufSize
      if x.1 = [] then [] else x.1 :: r.copy bufSize fuel x.2

/-- the copy loop in debug mode (`SOCKETACE_PIPE_DEBUG=1`): the destination is `io.MultiWriter(w, logWriter)`, so every
    chunk goes to `w` first and then to the log writer; when that one reports a count other than the chunk's length the
    copy ends with io.ErrShortWrite after the chunk it has just forwarded.  `logCount` = what logWriter.Write reports. -/
def Reader.copyDbg {σ : Type} (r : Reader σ) (logCount : List Nat → Nat) (bufSize : Nat) : Nat → σ → List (List Nat)
  | 0, _ => []
  | fuel + 1, s =>
      let x := r.read s bufSize
      if x.1 = [] then []
      else if logCount x.1 = x.1.length then x.1 :: r.copyDbg logCount bufSize fuel x.2
      else [x.1]

/-- bufio.Reader of buffer `size` stacked on any reader -/
def Reader.buffered {σ : Type} (r : Reader σ) (size : Nat) : Reader (List Nat × σ) where
  read := fun (buf, s) n =>
    if buf ≠ [] then (buf.take n, (buf.drop n, s))
    else if size ≤ n then let x := r.read s n; (x.1, ([], x.2))
    else let x := r.read s size; (x.1.take n, (x.1.drop n, x.2))
  content := fun (buf, s) => buf ++ r.content s

/-- the three ways a read of the buffered layer goes: out of the buffer; through to the layer below (empty buffer, the
    caller's buffer is at least as large as ours); fill our buffer from below and hand over what the caller has room for -/
inductive BufferedRead {σ : Type} (r : Reader σ) (size : Nat) (s : σ) (n : Nat) : List Nat → List Nat × List Nat × σ → Prop
  | buffer {buf : List Nat} (hb : buf ≠ []) : BufferedRead r size s n buf (buf.take n, buf.drop n, s)
  | through (hn : size ≤ n) : BufferedRead r size s n [] ((r.read s n).1, [], (r.read s n).2)
  | fill (hn : ¬ size ≤ n) :
      BufferedRead r size s n [] ((r.read s size).1.take n, (r.read s size).1.drop n, (r.read s size).2)

theorem buffered_read {σ : Type} (r : Reader σ) (size : Nat) (buf : List Nat) (s : σ) (n : Nat) :
    BufferedRead r size s n buf ((r.buffered size).read (buf, s) n) := by
  simp only [Reader.buffered]
  split
  · exact .buffer ‹_›
  · cases (Decidable.not_not.mp ‹_› : buf = [])
    split
    · exact .through ‹_›
    · exact .fill ‹_›

theorem buffered_conserve {σ : Type} (r : Reader σ) (hl : r.Conserves) (size : Nat) : (r.buffered size).Conserves := by
  rintro ⟨buf, s⟩ n
  have h := buffered_read r size buf s n
  generalize (r.buffered size).read (buf, s) n = x at h ⊢
  cases h with
  | buffer =>
    show buf.take n ++ (buf.drop n ++ r.content s) = buf ++ r.content s
    rw [← List.append_assoc, List.take_append_drop]
  | through => exact hl s n
  | fill =>
    show (r.read s size).1.take n ++ ((r.read s size).1.drop n ++ r.content (r.read s size).2) = r.content s
    rw [← List.append_assoc, List.take_append_drop]
    exact hl s size

theorem take_ne_nil {l : List Nat} {n : Nat} (hn : 0 < n) (h : l ≠ []) : l.take n ≠ [] :=
  fun e => (List.take_eq_nil_iff.mp e).elim (Nat.ne_of_gt hn) h

theorem srcRead_conserve (s : Src) (n : Nat) :
    (srcRead s n).1 ++ (srcRead s n).2.flatten = s.flatten := by
  fun_induction srcRead s n with
  | case1 => rfl
  | case2 rest n ih => simpa using ih
  | case3 b bs rest n h => simp
  | case4 b bs rest n h => simp [← List.append_assoc]

theorem srcRead_len (s : Src) (n : Nat) : (srcRead s n).1.length ≤ n ∨ (srcRead s n).1 = [] := by
  fun_induction srcRead s n with
  | case1 => exact .inr rfl
  | case2 rest n ih => exact ih
  | case3 b bs rest n h => exact .inl h
  | case4 b bs rest n h => exact .inl (by rw [List.length_take]; omega)

theorem srcRead_progress (s : Src) (n : Nat) (hn : 0 < n) (hc : s.flatten ≠ []) :
    (srcRead s n).1 ≠ [] := by
  fun_induction srcRead s n with
  | case1 => exact hc
  | case2 rest n ih => exact ih hn (by simpa using hc)
  | case3 b bs rest n h => nofun
  | case4 b bs rest n h => exact take_ne_nil hn nofun

def srcReader : Reader Src := { read := srcRead, content := List.flatten }

theorem srcReader_lawful : srcReader.Lawful := ⟨srcRead_conserve, srcRead_progress⟩

theorem copyLoop_eq_copy (bufSize fuel : Nat) (s : Src) : copyLoop bufSize fuel s = srcReader.copy bufSize fuel s := by
  induction fuel generalizing s with
  | zero => rfl
  | succ k ih => simp only [copyLoop, Reader.copy, ih]; rfl

theorem bufRead_eq_buffered (size : Nat) (b : Buf) (n : Nat) :
    bufRead size b n =
      (((srcReader.buffered size).read (b.buf, b.src) n).1,
        ⟨((srcReader.buffered size).read (b.buf, b.src) n).2.1, ((srcReader.buffered size).read (b.buf, b.src) n).2.2⟩) := by
  simp only [bufRead, Reader.buffered, srcReader]
  split
  · rfl
  · split <;> rfl

theorem bufRead_conserve (size : Nat) (b : Buf) (n : Nat) :
    (bufRead size b n).1 ++ (bufRead size b n).2.content = b.content := by
  rw [bufRead_eq_buffered]
  exact buffered_conserve srcReader srcReader_lawful.conserves size (b.buf, b.src) n

theorem peek1_spec (size : Nat) (b : Buf) :
    ((peek1 size b).1 = true → (peek1 size b).2.buf ≠ []) ∧ (peek1 size b).2.content = b.content := by
  unfold peek1 Buf.content
  split
  · exact ⟨fun _ => ‹_›, rfl⟩
  · rename_i h
    have hb : b.buf = [] := by simpa using h
    exact ⟨fun h => by simpa using h, by simp [hb, srcRead_conserve]⟩

theorem wsWrite_flatten (size : Nat) (p : List Nat) : (wsWrite size p).flatten = p := by
  fun_induction wsWrite size p with
  | case1 p => simp
  | case2 p _ _ => simp
  | case3 p _ _ ih => simp [ih]

theorem wsWrite_le (size : Nat) (hs : 0 < size) (p : List Nat) : ∀ m ∈ wsWrite size p, m.length ≤ size := by
  fun_induction wsWrite size p with
  | case1 p => omega
  | case2 p _ hl => simpa using hl
  | case3 p _ hl ih =>
    intro m hm
    rcases List.mem_cons.mp hm with rfl | hm
    · rw [List.length_take]; omega
    · exact ih m hm

def RdOut.bytes : RdOut → List Nat
  | .data bs => bs
  | _ => []

theorem wsRead_ok_conserve_eof (w : Ws) (n : Nat) :
    (wsRead true w n).1 ≠ .err ∧ (wsRead true w n).1.bytes ++ (wsRead true w n).2.content = w.content ∧
    ((wsRead true w n).1 = .eof → w.content = []) := by
  unfold wsRead Ws.content
  split
  · simp [RdOut.bytes, ← List.append_assoc]
  · rename_i h
    have hp : w.pending = [] := by simpa using h
    cases hm : w.msgs with
    | nil => simp [hp, hm, RdOut.bytes]
    | cons m rest =>
      simp only []
      split
      · simp [hp, RdOut.bytes]
      · simp [hp, RdOut.bytes, ← List.append_assoc]

def WsBuf.content (b : WsBuf) : List Nat := b.buf ++ b.ws.content

/-- the websocket reader as a layer: a read hands over its bytes (none at end-of-stream) -/
def wsReader : Reader Ws :=
  { read := fun w n => ((wsRead true w n).1.bytes, (wsRead true w n).2), content := Ws.content }

theorem wsReader_conserves : wsReader.Conserves := fun w n => (wsRead_ok_conserve_eof w n).2.1

theorem wsBufRead_ok_eq_buffered (size : Nat) (b : WsBuf) (n : Nat) :
    (wsBufRead true size b n).1 ≠ .err ∧
    ((wsBufRead true size b n).1.bytes, (wsBufRead true size b n).2.buf, (wsBufRead true size b n).2.ws) =
      (wsReader.buffered size).read (b.buf, b.ws) n := by
  have h1 := (wsRead_ok_conserve_eof b.ws n).1
  have h2 := (wsRead_ok_conserve_eof b.ws size).1
  simp only [wsBufRead, Reader.buffered, wsReader]
  split
  · exact ⟨nofun, rfl⟩
  · split
    · exact ⟨h1, rfl⟩
    · cases hr : wsRead true b.ws size with
      | mk o w' =>
        rw [hr] at h2
        cases o with
        | data bs => exact ⟨nofun, rfl⟩
        | eof => exact ⟨nofun, by simp [RdOut.bytes]⟩
        | err => exact absurd rfl h2

theorem wsBufRead_ok_conserve (size : Nat) (b : WsBuf) (n : Nat) :
    (wsBufRead true size b n).1 ≠ .err ∧
    (wsBufRead true size b n).1.bytes ++ (wsBufRead true size b n).2.content = b.content := by
  obtain ⟨h, e⟩ := wsBufRead_ok_eq_buffered size b n
  refine ⟨h, ?_⟩
  have := buffered_conserve wsReader wsReader_conserves size (b.buf, b.ws) n
  rw [← e] at this
  exact this

end SA.Framing
