/-
  The transitions of the PipeData process model (SA.Model.Pipe) as rules (`Step`), and its invariants: of the control
  (`Inv`: who has sent, who has received), of the caller's closes (`CInv`), and of the data when one side writes and
  closes while the other stays silent (`DInv`); last, the states in which nothing moves (`Quiescent`) and what a copier
  that cannot move is waiting for (`Blocked`, one predicate for both copiers: `blockedD`, `blockedU`).  C14 and C17 read
  their statements off these.
-/
import SA.Model.Pipe
import SA.Proofs.Run
namespace SA.Pipe

/-- `Close` on an end sets its flag; nothing else changes but the close log, which no theorem reads -/
theorem closeEnd_eq (s : St) (e : End) :
    closeEnd s e = { s with dClosed := s.dClosed || e = .down, uClosed := s.uClosed || e = .up,
                            closeLog := (closeEnd s e).closeLog } := by
  -- per end: its flag is set already (`closeEnd` returns `s`) or it is not
  cases e <;> simp only [closeEnd] <;> split <;> cases s <;> simp_all

theorem closeAll_eq (s : St) (es : List End) :
    closeAll s es = { s with dClosed := s.dClosed || .down ∈ es, uClosed := s.uClosed || .up ∈ es,
                             closeLog := (closeAll s es).closeLog } := by
  induction es generalizing s with
  | nil => cases s; simp [closeAll]
  | cons e es ih =>
    have h : closeAll s (e :: es) = closeAll (closeEnd s e) es := rfl
    rw [h, ih, closeEnd_eq]
    cases e <;> simp

/-- the ends a `select` arm closes -/
def armEnds (c : Cfg) (fromD : Bool) (r : Res) : List End :=
  if fromD then c.armD ++ (if r = .err then c.armDErr else []) else c.armU ++ (if r = .err then c.armUErr else [])

theorem mainArm_eq (c : Cfg) (s : St) (fromD : Bool) (r : Res) :
    mainArm c s fromD r =
      { s with dClosed := s.dClosed || .down ∈ armEnds c fromD r, uClosed := s.uClosed || .up ∈ armEnds c fromD r,
               closeLog := (mainArm c s fromD r).closeLog, mainDone := true,
               mainRes := if r = .err then some .err else none } := by
  unfold mainArm
  simp only []
  rw [closeAll_eq]
  rfl

/-- the ends the caller closes after PipeData returned -/
def callerEnds (c : Cfg) : List End :=
  match c.caller with
  | .none => []
  | .both => [.up, .down]
  | .downOnly => if c.muxClosesTarget then [.up, .down] else [.down]

/-- the transitions of `step`, one rule for each way an action is enabled -/
inductive Step (c : Cfg) (s : St) : Act → St → Prop
  | finDown : s.dFin = false → Step c s .finDown { s with dFin := true }
  | finUp : s.uFin = false → Step c s .finUp { s with uFin := true }
  | goneDown : s.dGone = false → Step c s .goneDown { s with dGone := true, dFin := true }
  | goneUp : s.uGone = false → Step c s .goneUp { s with uGone := true, uFin := true }
  | stallDown : s.dStall = false → Step c s .stallDown { s with dStall := true }
  | stallUp : s.uStall = false → Step c s .stallUp { s with uStall := true }
  | readClosedD : s.cd = .copying → s.dClosed = true → Step c s .stepD { s with cd := .sending .err }
  | readD {chunk rest} : s.cd = .copying → s.dClosed = false → s.dIn = chunk :: rest →
      Step c s .stepD { s with dIn := rest, cd := .writing chunk }
  | eofD : s.cd = .copying → s.dClosed = false → s.dIn = [] → s.dFin = true → Step c s .stepD { s with cd := .sending .eof }
  | writeFailD {chunk} : s.cd = .writing chunk → s.uClosed = true ∨ s.uGone = true →
      Step c s .stepD { s with cd := .sending .err }
  | writeD {chunk} : s.cd = .writing chunk → s.uClosed = false → s.uGone = false → s.uStall = false →
      Step c s .stepD { s with uOut := s.uOut ++ chunk, cd := .copying }
  | readClosedU : s.cu = .copying → s.uClosed = true → Step c s .stepU { s with cu := .sending .err }
  | readU {chunk rest} : s.cu = .copying → s.uClosed = false → s.uIn = chunk :: rest →
      Step c s .stepU { s with uIn := rest, cu := .writing chunk }
  | eofU : s.cu = .copying → s.uClosed = false → s.uIn = [] → s.uFin = true → Step c s .stepU { s with cu := .sending .eof }
  | writeFailU {chunk} : s.cu = .writing chunk → s.dClosed = true ∨ s.dGone = true →
      Step c s .stepU { s with cu := .sending .err }
  | writeU {chunk} : s.cu = .writing chunk → s.dClosed = false → s.dGone = false → s.dStall = false →
      Step c s .stepU { s with dOut := s.dOut ++ chunk, cu := .copying }
  | depositD {r} : s.cd = .sending r → s.chD < c.cap → Step c s .sendD { s with cd := .done, chD := s.chD + 1, chDr := r }
  | handD {r} : s.cd = .sending r → c.cap ≤ s.chD → c.cap = 0 → s.mainDone = false →
      Step c s .sendD { (mainArm c s true r) with cd := .done }
  | depositU {r} : s.cu = .sending r → s.chU < c.cap → Step c s .sendU { s with cu := .done, chU := s.chU + 1, chUr := r }
  | handU {r} : s.cu = .sending r → c.cap ≤ s.chU → c.cap = 0 → s.mainDone = false →
      Step c s .sendU { (mainArm c s false r) with cu := .done }
  | recvD : s.mainDone = false → 0 < s.chD → Step c s .recvD (mainArm c { s with chD := s.chD - 1 } true s.chDr)
  | recvU : s.mainDone = false → 0 < s.chU → Step c s .recvU (mainArm c { s with chU := s.chU - 1 } false s.chUr)
  | callerClose : s.mainDone = true → s.callerDone = false →
      Step c s .callerClose { (closeAll s (callerEnds c)) with callerDone := true }

theorem step_callerClose (c : Cfg) (s : St) : step c s .callerClose =
    if s.mainDone ∧ ¬ s.callerDone then some { (closeAll s (callerEnds c)) with callerDone := true } else none := by
  obtain ⟨_, _, _, _, _, caller, _⟩ := c
  cases caller <;> rfl

theorem step_sound {c : Cfg} {s s' : St} {a : Act} (h : step c s a = some s') : Step c s a s' := by
  -- the guards of `step` are tests `b = true` of flags; a failed test is `b = false`
  have no {b : Bool} (h : ¬ b = true) : b = false := Bool.eq_false_iff.mpr h
  cases a
  case callerClose =>
    rw [step_callerClose] at h
    split at h <;> cases h
    rename_i hg; exact .callerClose hg.1 (no hg.2)
  all_goals simp only [step] at h
  case finDown => split at h <;> cases h; exact .finDown (no ‹_›)
  case finUp => split at h <;> cases h; exact .finUp (no ‹_›)
  case goneDown => split at h <;> cases h; exact .goneDown (no ‹_›)
  case goneUp => split at h <;> cases h; exact .goneUp (no ‹_›)
  case stallDown => split at h <;> cases h; exact .stallDown (no ‹_›)
  case stallUp => split at h <;> cases h; exact .stallUp (no ‹_›)
  case stepD =>
    split at h
    · rename_i hc
      split at h
      · cases h; exact .readClosedD hc ‹_›
      · split at h
        · cases h; exact .readD hc (no ‹_›) ‹_›
        · split at h <;> cases h; exact .eofD hc (no ‹_›) ‹_› ‹_›
    · rename_i chunk hc
      split at h
      · cases h; exact .writeFailD hc ‹_›
      · split at h <;> cases h
        rename_i hw hs; exact .writeD hc (no fun e => hw (.inl e)) (no fun e => hw (.inr e)) (no hs)
    · cases h
  case stepU =>
    split at h
    · rename_i hc
      split at h
      · cases h; exact .readClosedU hc ‹_›
      · split at h
        · cases h; exact .readU hc (no ‹_›) ‹_›
        · split at h <;> cases h; exact .eofU hc (no ‹_›) ‹_› ‹_›
    · rename_i chunk hc
      split at h
      · cases h; exact .writeFailU hc ‹_›
      · split at h <;> cases h
        rename_i hw hs; exact .writeU hc (no fun e => hw (.inl e)) (no fun e => hw (.inr e)) (no hs)
    · cases h
  case sendD =>
    split at h
    · rename_i r hc
      split at h
      · cases h; exact .depositD hc ‹_›
      · split at h <;> cases h
        rename_i h1 h2; exact .handD hc (Nat.le_of_not_lt h1) h2.1 (no h2.2)
    · cases h
  case sendU =>
    split at h
    · rename_i r hc
      split at h
      · cases h; exact .depositU hc ‹_›
      · split at h <;> cases h
        rename_i h1 h2; exact .handU hc (Nat.le_of_not_lt h1) h2.1 (no h2.2)
    · cases h
  case recvD => split at h <;> cases h; rename_i hg; exact .recvD (no hg.1) hg.2
  case recvU => split at h <;> cases h; rename_i hg; exact .recvU (no hg.1) hg.2

theorem run_skipRun (c : Cfg) : SkipRun (step c) (run c) :=
  ⟨fun _ => rfl, fun s a as => by rw [run]; cases step c s a <;> rfl⟩

/-- the two `select` arms close at least the opposite end -/
def Cfg.ArmsOk (c : Cfg) : Prop := End.up ∈ c.armD ∧ End.down ∈ c.armU

theorem Cfg.ArmsOk.up_mem {c : Cfg} (hc : c.ArmsOk) (r : Res) : .up ∈ armEnds c true r := by
  simp [armEnds, hc.1]

theorem Cfg.ArmsOk.down_mem {c : Cfg} (hc : c.ArmsOk) (r : Res) : .down ∈ armEnds c false r := by
  simp [armEnds, hc.2]

/-- one copier and its result channel: the channel holds at most one result, and then the copier has exited; while main
    waits, the result of a copier that has exited is still in its channel -/
structure Side (k : Copier) (ch : Nat) (mainDone : Bool) : Prop where
  le : ch ≤ 1
  done : ch = 1 → k = .done
  waiting : mainDone = false → k = .done → ch = 1

theorem Side.zero {k : Copier} {ch : Nat} {m : Bool} (h : Side k ch m) (hn : k ≠ .done) : ch = 0 := by
  have := h.le; have : ch ≠ 1 := fun e => hn (h.done e); omega

theorem Side.congr {k k' : Copier} {ch : Nat} {m : Bool} (h : Side k ch m) (e : k' = .done ↔ k = .done) : Side k' ch m :=
  ⟨h.le, fun c => e.mpr (h.done c), fun hm hk => h.waiting hm (e.mp hk)⟩

theorem Side.deposit {k : Copier} {ch : Nat} {m : Bool} (h : Side k ch m) (hn : k ≠ .done) : Side .done (ch + 1) m := by
  have := h.zero hn
  exact ⟨by omega, fun _ => rfl, fun _ _ => by omega⟩

theorem Side.returned {k : Copier} {ch : Nat} {m : Bool} (h : Side k ch m) : Side k ch true := ⟨h.le, h.done, nofun⟩

/-- each copier hands over exactly one result (`Side`); once main has returned it has taken the result of one copier —
    exited, channel empty — and closed the end the other one reads from -/
structure Inv (s : St) : Prop where
  d : Side s.cd s.chD s.mainDone
  u : Side s.cu s.chU s.mainDone
  main : s.mainDone = true →
    (s.uClosed = true ∧ s.cd = .done ∧ s.chD = 0) ∨ (s.dClosed = true ∧ s.cu = .done ∧ s.chU = 0)

theorem init_inv (dIn uIn : List (List Nat)) : Inv (init dIn uIn) :=
  ⟨⟨Nat.zero_le 1, nofun, nofun⟩, ⟨Nat.zero_le 1, nofun, nofun⟩, nofun⟩

theorem step_inv {c : Cfg} (hc : c.ArmsOk) {s s' : St} {a : Act} (h : Inv s) (hs : Step c s a s') : Inv s' := by
  cases hs with
  | finDown | finUp | goneDown | goneUp | stallDown | stallUp => exact ⟨h.d, h.u, h.main⟩
  -- a copier that reads or writes has not exited, before or after
  | readClosedD hk | readD hk | eofD hk | writeFailD hk | writeD hk =>
    exact ⟨h.d.congr (by simp [hk]), h.u, fun hm => (h.main hm).imp (fun hl => by simp [hk] at hl) id⟩
  | readClosedU hk | readU hk | eofU hk | writeFailU hk | writeU hk =>
    exact ⟨h.d, h.u.congr (by simp [hk]), fun hm => (h.main hm).imp id (fun hr => by simp [hk] at hr)⟩
  | callerClose =>
    rw [closeAll_eq]
    exact ⟨h.d, h.u, fun hm => (h.main hm).imp (And.imp_left (by simp +contextual)) (And.imp_left (by simp +contextual))⟩
  | depositD hk => exact ⟨h.d.deposit (by simp [hk]), h.u, fun hm => (h.main hm).imp (fun hl => by simp [hk] at hl) id⟩
  | depositU hk => exact ⟨h.d, h.u.deposit (by simp [hk]), fun hm => (h.main hm).imp id (fun hr => by simp [hk] at hr)⟩
  | handD hk =>
    rw [mainArm_eq]
    exact ⟨⟨h.d.le, fun _ => rfl, nofun⟩, h.u.returned, fun _ => .inl ⟨by simp [hc.up_mem], rfl, h.d.zero (by simp [hk])⟩⟩
  | handU hk =>
    rw [mainArm_eq]
    exact ⟨h.d.returned, ⟨h.u.le, fun _ => rfl, nofun⟩, fun _ => .inr ⟨by simp [hc.down_mem], rfl, h.u.zero (by simp [hk])⟩⟩
  | recvD _ hpos =>
    have h1 : s.chD = 1 := by have := h.d.le; omega
    rw [mainArm_eq]
    exact ⟨⟨by simp [h1], by simp [h1], nofun⟩, h.u.returned, fun _ => .inl ⟨by simp [hc.up_mem], h.d.done h1, by simp [h1]⟩⟩
  | recvU _ hpos =>
    have h1 : s.chU = 1 := by have := h.u.le; omega
    rw [mainArm_eq]
    exact ⟨h.d.returned, ⟨by simp [h1], by simp [h1], nofun⟩, fun _ => .inr ⟨by simp [hc.down_mem], h.u.done h1, by simp [h1]⟩⟩

theorem run_inv {c : Cfg} (hc : c.ArmsOk) {s : St} (h : Inv s) (acts : List Act) : Inv (run c s acts) :=
  (run_skipRun c).invariant (fun h hs => step_inv hc h (step_sound hs)) h acts

/-- the caller closes both connection objects of the pair -/
def Cfg.CallerClosesBoth (c : Cfg) : Prop :=
  c.caller = .both ∨ (c.caller = .downOnly ∧ c.muxClosesTarget = true)

def CInv (s : St) : Prop := s.callerDone = true → s.dClosed = true ∧ s.uClosed = true

/-- closed connections stay closed, and only the caller's own step sets `callerDone` — when it has closed both -/
theorem step_cinv {c : Cfg} (hb : c.CallerClosesBoth) {s s' : St} {a : Act} (h : CInv s) (hs : Step c s a s') :
    CInv s' := by
  cases hs with
  | callerClose =>
    have : callerEnds c = [.up, .down] := by
      unfold callerEnds; rcases hb with hb | ⟨hb, ht⟩ <;> simp [*]
    rw [closeAll_eq, this]
    exact fun _ => by simp
  | handD | handU | recvD | recvU =>
    rw [mainArm_eq]
    exact fun hd => (h hd).imp (by simp +contextual) (by simp +contextual)
  | _ => exact h

theorem run_cinv {c : Cfg} (hb : c.CallerClosesBoth) (dIn uIn : List (List Nat)) (acts : List Act) :
    CInv (run c (init dIn uIn) acts) :=
  (run_skipRun c).invariant (fun h hs => step_cinv hb h (step_sound hs)) (fun h => by cases h) acts

/-- what copier D has read, or may still read, and not yet written -/
def toCopy (s : St) : List Nat :=
  match s.cd with
  | .copying => s.dIn.flatten
  | .writing ch => ch ++ s.dIn.flatten
  | _ => []

/-- before PipeData returns: both ends open, copier U idle, and what has been written plus what is to be copied is `B` -/
structure DPre (B : List Nat) (s : St) : Prop where
  dOpen : s.dClosed = false
  uOpen : s.uClosed = false
  cuIdle : s.cu = .copying
  chU : s.chU = 0
  data : s.uOut ++ toCopy s = B

/-- the invariant of "`down` writes `B` and closes, `up` stays silent and open": `up` stays silent; until PipeData returns
    `DPre` holds; once it has returned `up` has been handed exactly `B`, has been closed, and copier D has exited -/
structure DInv (B : List Nat) (s : St) : Prop where
  uFin : s.uFin = false
  uGone : s.uGone = false
  uIn : s.uIn = []
  pre : s.mainDone = false → DPre B s
  post : s.mainDone = true → s.uOut = B ∧ s.uClosed = true ∧ s.cd = .done

theorem init_dinv (dIn : List (List Nat)) : DInv dIn.flatten (init dIn []) :=
  ⟨rfl, rfl, rfl, fun _ => ⟨rfl, rfl, rfl, rfl, by simp [init, toCopy]⟩, nofun⟩

/-- the other side neither finishes nor disappears on its own -/
def UpSilent (a : Act) : Prop := a ≠ .finUp ∧ a ≠ .goneUp

theorem DInv.notMain {B : List Nat} {s : St} (h : DInv B s) (hk : s.cd ≠ .done) : s.mainDone = false := by
  cases hm : s.mainDone with
  | false => rfl
  | true => exact absurd (h.post hm).2.2 hk

theorem step_dinv {c : Cfg} (hc : c.ArmsOk) {B : List Nat} {s s' : St} {a : Act} (ha : UpSilent a)
    (hi : Inv s) (h : DInv B s) (hs : Step c s a s') : DInv B s' := by
  cases hs with
  | finUp => exact absurd rfl ha.1
  | goneUp => exact absurd rfl ha.2
  | finDown | goneDown | stallDown | stallUp =>
    exact ⟨h.uFin, h.uGone, h.uIn, fun hm => { h.pre hm with }, h.post⟩
  -- copier D: main has not returned, both ends are open; what is written plus what is to be copied stays `B`
  | readClosedD hk hcl => simp [(h.pre (h.notMain (by simp [hk]))).dOpen] at hcl
  | writeFailD hk hw => simp [(h.pre (h.notMain (by simp [hk]))).uOpen, h.uGone] at hw
  | readD hk _ hin | eofD hk _ hin =>
    have hm := h.notMain (by simp [hk])
    have p := h.pre hm
    exact ⟨h.uFin, h.uGone, h.uIn, fun _ => { p with data := by simpa [toCopy, hk, hin] using p.data },
      fun e => by simp [hm] at e⟩
  | writeD hk | depositD hk =>
    have hm := h.notMain (by simp [hk])
    have p := h.pre hm
    exact ⟨h.uFin, h.uGone, h.uIn, fun _ => { p with data := by simpa [toCopy, hk] using p.data },
      fun e => by simp [hm] at e⟩
  -- main takes D's result: everything has been written, and the arm closes `up`
  | handD hk =>
    have p := h.pre (h.notMain (by simp [hk]))
    rw [mainArm_eq]
    exact ⟨h.uFin, h.uGone, h.uIn, by simp, fun _ => ⟨by simpa [toCopy, hk] using p.data, by simp [hc.up_mem], rfl⟩⟩
  | recvD hm hpos =>
    have p := h.pre hm
    have hd : s.cd = .done := hi.d.done (by have := hi.d.le; omega)
    rw [mainArm_eq]
    exact ⟨h.uFin, h.uGone, h.uIn, by simp, fun _ => ⟨by simpa [toCopy, hd] using p.data, by simp [hc.up_mem], hd⟩⟩
  -- copier U has nothing to read and main never hears from it: it moves only once `up` has been closed
  | readU _ _ hin => simp [h.uIn] at hin
  | eofU _ _ _ hf => simp [h.uFin] at hf
  | handU hk _ _ hm => simp [(h.pre hm).cuIdle] at hk
  | recvU hm hpos => simp [(h.pre hm).chU] at hpos
  | readClosedU _ hcl =>
    cases hm : s.mainDone with
    | false => simp [(h.pre hm).uOpen] at hcl
    | true => exact ⟨h.uFin, h.uGone, h.uIn, by simp, fun _ => h.post hm⟩
  | writeFailU hk | writeU hk | depositU hk =>
    cases hm : s.mainDone with
    | false => simp [(h.pre hm).cuIdle] at hk
    | true => exact ⟨h.uFin, h.uGone, h.uIn, by simp, fun _ => h.post hm⟩
  | callerClose hm =>
    rw [closeAll_eq]
    have q := h.post hm
    exact ⟨h.uFin, h.uGone, h.uIn, fun e => by simp [hm] at e, fun _ => ⟨q.1, by simp [q.2.1], q.2.2⟩⟩

theorem run_dinv {c : Cfg} (hc : c.ArmsOk) {B : List Nat} {s : St} (hi : Inv s) (h : DInv B s) (acts : List Act)
    (hn : ∀ a ∈ acts, UpSilent a) : DInv B (run c s acts) :=
  ((run_skipRun c).induct (P := fun s => Inv s ∧ DInv B s)
    (fun ha hh hs => ⟨step_inv hc hh.1 (step_sound hs), step_dinv hc ha hh.1 hh.2 (step_sound hs)⟩)
    ⟨hi, h⟩ acts hn).2

structure Quiescent (c : Cfg) (s : St) : Prop where
  stepD : step c s .stepD = none
  stepU : step c s .stepU = none
  sendD : step c s .sendD = none
  sendU : step c s .sendU = none
  recvD : step c s .recvD = none
  recvU : step c s .recvU = none
  callerClose : step c s .callerClose = none

theorem quiescent_iff (c : Cfg) (s : St) : quiescent c s = true ↔ Quiescent c s := by
  simp only [quiescent, List.all_cons, List.all_nil, Bool.and_true, Bool.and_eq_true, Option.isNone_iff_eq_none]
  exact ⟨fun ⟨h1, h2, h3, h4, h5, h6, h7⟩ => ⟨h1, h2, h3, h4, h5, h6, h7⟩,
    fun h => ⟨h.stepD, h.stepU, h.sendD, h.sendU, h.recvD, h.recvU, h.callerClose⟩⟩

/-- what a copier that cannot move is doing: it has exited, or it waits in `Read` on an open end with nothing to read
    and no end-of-stream, or it waits in `Write` to an open peer that has stopped reading.  The arguments are the
    copier, then the flags of its source and of its destination. -/
inductive Blocked (k : Copier) (srcClosed : Bool) (src : List (List Nat)) (srcFin dstClosed dstGone dstStall : Bool) : Prop
  | exited : k = .done → Blocked k srcClosed src srcFin dstClosed dstGone dstStall
  | reading : k = .copying → srcClosed = false → src = [] → srcFin = false →
      Blocked k srcClosed src srcFin dstClosed dstGone dstStall
  | writing {ch} : k = .writing ch → dstClosed = false → dstGone = false → dstStall = true →
      Blocked k srcClosed src srcFin dstClosed dstGone dstStall

/-- a copier that cannot move has exited once its source has ended (closed here, or end-of-stream) and its destination
    lets a `Write` return (the peer reads, or the destination is closed here) -/
theorem Blocked.exited_of {k : Copier} {sc : Bool} {src : List (List Nat)} {sf dc dg ds : Bool}
    (h : Blocked k sc src sf dc dg ds) (hr : sc = true ∨ sf = true) (hw : ds = false ∨ dc = true) : k = .done := by
  cases h with
  | exited h => exact h
  | reading _ hc _ hf => rcases hr with e | e <;> simp_all
  | writing _ hc _ hs => rcases hw with e | e <;> simp_all

theorem blockedD {c : Cfg} {s : St} (hcap : 1 ≤ c.cap) (hinv : Inv s)
    (hD : step c s .stepD = none) (hsD : step c s .sendD = none) :
    Blocked s.cd s.dClosed s.dIn s.dFin s.uClosed s.uGone s.uStall := by
  cases hcd : s.cd with
  | done => exact .exited rfl
  | copying =>
    cases hcl : s.dClosed <;> cases hin : s.dIn <;> cases hf : s.dFin <;> simp [step, hcd, hcl, hin, hf] at hD
    exact .reading rfl rfl rfl rfl
  | writing ch =>
    cases hu : s.uClosed <;> cases hg : s.uGone <;> cases hst : s.uStall <;> simp [step, hcd, hu, hg, hst] at hD
    exact .writing rfl rfl rfl rfl
  | sending r =>
    have h0 := hinv.d.zero (by simp [hcd])
    have hlt : s.chD < c.cap := by omega
    simp [step, hcd, hlt] at hsD

theorem blockedU {c : Cfg} {s : St} (hcap : 1 ≤ c.cap) (hinv : Inv s)
    (hU : step c s .stepU = none) (hsU : step c s .sendU = none) :
    Blocked s.cu s.uClosed s.uIn s.uFin s.dClosed s.dGone s.dStall := by
  cases hcu : s.cu with
  | done => exact .exited rfl
  | copying =>
    cases hcl : s.uClosed <;> cases hin : s.uIn <;> cases hf : s.uFin <;> simp [step, hcu, hcl, hin, hf] at hU
    exact .reading rfl rfl rfl rfl
  | writing ch =>
    cases hu : s.dClosed <;> cases hg : s.dGone <;> cases hst : s.dStall <;> simp [step, hcu, hu, hg, hst] at hU
    exact .writing rfl rfl rfl rfl
  | sending r =>
    have h0 := hinv.u.zero (by simp [hcu])
    have hlt : s.chU < c.cap := by omega
    simp [step, hcu, hlt] at hsU

end SA.Pipe
