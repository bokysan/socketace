/-
  SA.Proofs.Bytes — `SA.Bytes` (every element < 256) through the list constructors.
-/
import SA.Base.Util
namespace SA

theorem Bytes.head {a : Nat} {l : List Nat} (h : Bytes (a :: l)) : a < 256 := h a List.mem_cons_self
theorem Bytes.tail {a : Nat} {l : List Nat} (h : Bytes (a :: l)) : Bytes l :=
  fun x hx => h x (List.mem_cons_of_mem a hx)

@[simp] theorem bytes_nil : Bytes [] := nofun

@[simp] theorem bytes_cons_iff {a : Nat} {l : List Nat} : Bytes (a :: l) ↔ a < 256 ∧ Bytes l := by
  simp [Bytes]

@[simp] theorem bytes_append_iff {a b : List Nat} : Bytes (a ++ b) ↔ Bytes a ∧ Bytes b := by
  simp [Bytes, or_imp, forall_and]

theorem bytes_cons {a : Nat} {b : List Nat} (ha : a < 256) (hb : Bytes b) : Bytes (a :: b) :=
  bytes_cons_iff.mpr ⟨ha, hb⟩

theorem Bytes.replicate (n : Nat) {b : Nat} (h : b < 256) : Bytes (List.replicate n b) :=
  fun _ hx => List.eq_of_mem_replicate hx ▸ h

end SA
