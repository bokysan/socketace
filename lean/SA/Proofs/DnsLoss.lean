/-
  SA.Proofs.DnsLoss — the lossy DNS path of C01 (SA.Model.DnsLoss).  The measure of a schedule is `maxRun`, its longest
  run of losses: an exchange with more tries than that succeeds and leaves a schedule whose `maxRun` is no larger, so
  every exchange of a transfer succeeds (`transfer_all`); where a timeout is not recognised as one, the first loss
  ends the transfer (`transfer_cut`).
-/
import SA.Model.DnsLoss
namespace SA.DnsLoss

theorem lead_le_maxRun : ∀ s, lead s ≤ maxRun s
  | [] => by simp [lead, maxRun]
  | .ok :: s => by simp [lead]
  | .lost :: s => by simp [lead, maxRun]; omega

/-- an exchange whose leading losses are fewer than its attempts succeeds, and what it leaves has no longer runs -/
theorem exchange_succeeds : ∀ (t : Nat) (s : List Fate), lead s < t →
    (exchange true t s).1 = true ∧ maxRun (exchange true t s).2 ≤ maxRun s
  | 0, s, h => by omega
  | t + 1, [], _ => by simp [exchange]
  | t + 1, .ok :: s, _ => by simp [exchange, maxRun]
  | t + 1, .lost :: s, h => by
      have h' : lead s < t := by simp [lead] at h; omega
      have ih := exchange_succeeds t s h'
      simp only [exchange, if_true]
      refine ⟨ih.1, ?_⟩
      have : maxRun s ≤ maxRun (.lost :: s) := by simp [maxRun]; omega
      omega

theorem transfer_all (tries : Nat) : ∀ (n : Nat) (s : List Fate), maxRun s < tries → transfer true tries n s = n
  | 0, _, _ => rfl
  | n + 1, s, h => by
      have hl : lead s < tries := Nat.lt_of_le_of_lt (lead_le_maxRun s) h
      have ex := exchange_succeeds tries s hl
      unfold transfer
      cases hx : exchange true tries s with
      | mk okk s' =>
        rw [hx] at ex
        simp only at ex
        obtain ⟨h1, h2⟩ := ex
        subst h1
        simp only
        rw [transfer_all tries n s' (by omega)]

/-- without recognition a single loss ends everything after it -/
theorem transfer_cut (tries n k : Nat) (rest : List Fate) (hk : k < n) (ht : 0 < tries) :
    transfer false tries n (List.replicate k Fate.ok ++ Fate.lost :: rest) = k := by
  induction k generalizing n with
  | zero =>
    cases n with
    | zero => omega
    | succ n => cases tries with
      | zero => omega
      | succ t => simp [transfer, exchange]
  | succ k ih =>
    cases n with
    | zero => omega
    | succ n => cases tries with
      | zero => omega
      | succ t =>
        have := ih n (by omega)
        simp [List.replicate_succ, transfer, exchange] at this ⊢
        exact this

end SA.DnsLoss
