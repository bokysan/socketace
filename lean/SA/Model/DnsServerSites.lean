/-
  SA.Model.DnsServerSites — the panic sites (index / slice / unchecked type assertion / func-field call) of the DNS
  server handler, the command decoders and the record (un)wrapping that the C12 models account for, each with the
  reason it cannot fail.  `C12_site_coverage` compares this hand-maintained list with the inventory regenerated from
  the source (`SA.Gen.panicSites`): a new or re-shaped site in these functions is not in this list and breaks the
  obligation until somebody has looked at it.

  Since the bounds analysis of go/extract/x_c12_bounds.go the regenerated inventory holds only the sites whose safety
  the extractor cannot establish from the dominating length guards (`len(x) >= k`, `len(x) >= len(d)+k`, early exits,
  short-circuit operands); entries of this list whose site is discharged that way no longer occur in
  `SA.Gen.panicSites` and are kept for the record (and for the day the guard is removed and the site re-appears).
-/
namespace SA.DnsServer

def coveredSites : List Nat := [
  2248506465,  -- wrap.go|unescapePresentation|index|_[_]#1   s[i]
      -- ^ loop index i < len(s)
  4204028541,  -- wrap.go|unescapePresentation|index|_[_+1]#1   s[i+1]
      -- ^ same case condition: i+3 < len(s) is tested first (&& short-circuits)
  2555809270,  -- wrap.go|unescapePresentation|index|_[_+2]#1   s[i+2]
      -- ^ same case condition: i+3 < len(s) is tested first
  3647457135,  -- wrap.go|unescapePresentation|index|_[_+3]#1   s[i+3]
      -- ^ same case condition: i+3 < len(s) is tested first
  4153695684,  -- wrap.go|unescapePresentation|index|_[_+1]#2   s[i+1]
      -- ^ case body: i+3 < len(s) holds
  2539031651,  -- wrap.go|unescapePresentation|index|_[_+2]#2   s[i+2]
      -- ^ case body: i+3 < len(s) holds
  3664234754,  -- wrap.go|unescapePresentation|index|_[_+3]#2   s[i+3]
      -- ^ case body: i+3 < len(s) holds
  2198173608,  -- wrap.go|unescapePresentation|index|_[_]#2   s[i]
      -- ^ after i++ under the case condition i+1 < len(s); DnsClient.unescPresF by pattern matching
  816648987,  -- cmd_error.go|ErrorResponse.Decode|slice|_[1:]#1   response[1:]
      -- ^ DnsClient.decodeResponse: explicit sliceFrom/slice/idx after the length guards
  4048619025,  -- cmd_packet.go|PacketRequest.Decode|slice|_._._[:_]#1   vr.Packet.Data[:n]
      -- ^ own buffer: Data[:n] with n returned by bytes.Buffer.Read into that buffer
  3875926503,  -- cmd_packet.go|PacketResponse.Decode|slice|_[1:]#1   req[1:]
      -- ^ DnsClient.decodeResponse: explicit sliceFrom/slice/idx after the length guards
  1820771339,  -- cmd_packet.go|PacketResponse.Decode|slice|_._._[:_]#1   vr.Packet.Data[:n]
      -- ^ DnsClient.decodeResponse: explicit sliceFrom/slice/idx after the length guards
  2143204270,  -- cmd_set_options.go|SetOptionsResponse.Decode|slice|_[1:]#1   response[1:]
      -- ^ DnsClient.decodeResponse: explicit sliceFrom/slice/idx after the length guards
  2050990130,  -- cmd_test_downstream_encoder.go|TestDownstreamEncoderRequest.Decode|index|_[0]#1   req[0]
      -- ^ DnsServer.decodeRequest (y): idx body 0 after the len guard
  3383007909,  -- cmd_test_downstream_encoder.go|TestDownstreamEncoderResponse.Decode|index|_[1]#1   response[1]
      -- ^ DnsClient.decodeResponse: explicit sliceFrom/slice/idx after the length guards
  3865383480,  -- cmd_test_downstream_encoder.go|TestDownstreamEncoderResponse.Decode|slice|_[2:]#1   response[2:]
      -- ^ DnsClient.decodeResponse: explicit sliceFrom/slice/idx after the length guards
  3332675052,  -- cmd_test_downstream_encoder.go|TestDownstreamEncoderResponse.Decode|index|_[1]#2   response[1]
      -- ^ DnsClient.decodeResponse: explicit sliceFrom/slice/idx after the length guards
  3915716337,  -- cmd_test_downstream_encoder.go|TestDownstreamEncoderResponse.Decode|slice|_[2:]#2   response[2:]
      -- ^ DnsClient.decodeResponse: explicit sliceFrom/slice/idx after the length guards
  1752534737,  -- cmd_test_downstream_encoder.go|TestDownstreamEncoderResponse.Decode|slice|_[1:]#1   response[1:]
      -- ^ DnsClient.decodeResponse: explicit sliceFrom/slice/idx after the length guards
  701778217,  -- cmd_test_fragment_size.go|TestDownstreamFragmentSizeResponse.Decode|slice|_[1:]#1   response[1:]
      -- ^ DnsClient.decodeResponse: explicit sliceFrom/slice/idx after the length guards
  2685335478,  -- cmd_test_fragment_size.go|TestDownstreamFragmentSizeResponse.Decode|slice|_._[:_]#1   vr.Data[:n]
      -- ^ DnsClient.decodeResponse: explicit sliceFrom/slice/idx after the length guards
  1124669165,  -- cmd_test_upstream_encoder.go|TestUpstreamEncoderResponse.Decode|slice|_[1:]#1   response[1:]
      -- ^ DnsClient.decodeResponse: explicit sliceFrom/slice/idx after the length guards
  1222316451,  -- cmd_test_upstream_encoder.go|TestUpstreamEncoderResponse.Decode|slice|_[0:_]#1   d[0:cnt]
      -- ^ DnsClient.decodeResponse: explicit sliceFrom/slice/idx after the length guards
  2594329663,  -- cmd_version.go|VersionResponse.Decode|slice|_[1:]#1   response[1:]
      -- ^ DnsClient.decodeResponse: explicit sliceFrom/slice/idx after the length guards
  223359336,  -- cmd_version.go|VersionResponse.Decode|slice|_[0:2]#1   response[0:2]
      -- ^ DnsClient.decodeResponse: explicit sliceFrom/slice/idx after the length guards
  2390945130,  -- cmd_version.go|VersionResponse.Decode|slice|_[2:]#1   response[2:]
      -- ^ DnsClient.decodeResponse: explicit sliceFrom/slice/idx after the length guards
  402454965,  -- commands.go|Command.ValidateType|index|_[0]#1   data[0]
      -- ^ guarded by len(data)==0; only reached for non-empty data
  2756862036,  -- commands.go|Command.IsOfType|index|_[0]#1   data[0]
      -- ^ DnsServer.isOfType: idx / slice after the len guard
  3654595070,  -- commands.go|Command.IsOfType|index|_._(_(_[0:1]))[0]#1   strings.ToLower(string(data[0:1]))[0]
      -- ^ DnsServer.isOfType: idx / slice after the len guard
  808211033,  -- commands.go|Command.IsOfType|slice|_[0:1]#1   data[0:1]
      -- ^ DnsServer.isOfType: idx / slice after the len guard
  3378412466,  -- commands.go|DecodeRequestHeader|slice|_[4:]#1   req[4:]
      -- ^ DnsServer.decodeHeader: sliceFrom 4 / slice 0 2 / sliceFrom 2 after the len guards
  2986265006,  -- commands.go|DecodeRequestHeader|slice|_[0:2]#1   req[0:2]
      -- ^ DnsServer.decodeHeader: sliceFrom 4 / slice 0 2 / sliceFrom 2 after the len guards
  1312162220,  -- commands.go|DecodeRequestHeader|slice|_[2:]#1   req[2:]
      -- ^ DnsServer.decodeHeader: sliceFrom 4 / slice 0 2 / sliceFrom 2 after the len guards
  1634133843,  -- serializer.go|Serializer.EncodeDnsResponse|index|_._[0]#1   request.Question[0]
      -- ^ request.Question[0]: one-question messages (quantifier of C12)
  3396749565,  -- serializer.go|Serializer.DecodeDnsResponseWithParams|callfield|_._#1   c.NewResponse
      -- ^ DnsClient.decodeAnswer: callField hasResp after the nil guard; data[0] after the empty-data guard
  3835857668,  -- serializer.go|Serializer.DecodeDnsResponseWithParams|index|_[0]#1   data[0]
      -- ^ DnsClient.decodeAnswer: callField hasResp after the nil guard; data[0] after the empty-data guard
  3635783469,  -- serializer.go|Serializer.DecodeDnsRequest|callfield|_._#1   c.NewRequest
      -- ^ DnsServer.decodeRequest: callField hasReq (guarded in onMessage); request[0] only in the unreachable fall-through
  1303810740,  -- serializer.go|Serializer.DecodeDnsRequest|index|_[0]#1   request[0]
      -- ^ DnsServer.decodeRequest: callField hasReq (guarded in onMessage); request[0] only in the unreachable fall-through
  2963731158,  -- utils.go|StripDomain|slice|_[0:_-_]#1   data[0 : l2-l1]
      -- ^ DnsServer.stripDomain / unescapeF: slice after HasSuffix, pattern matching with the dangling-backslash case
  3717157477,  -- utils.go|StripDomain|index|_[0]#1   data[0]
      -- ^ DnsServer.stripDomain / unescapeF: slice after HasSuffix, pattern matching with the dangling-backslash case
  1899814930,  -- utils.go|StripDomain|slice|_[1:]#1   data[1:]
      -- ^ DnsServer.stripDomain / unescapeF: slice after HasSuffix, pattern matching with the dangling-backslash case
  1883037311,  -- utils.go|StripDomain|slice|_[1:]#2   data[1:]
      -- ^ DnsServer.stripDomain / unescapeF: slice after HasSuffix, pattern matching with the dangling-backslash case
  1866259692,  -- utils.go|StripDomain|slice|_[1:]#3   data[1:]
      -- ^ DnsServer.stripDomain / unescapeF: slice after HasSuffix, pattern matching with the dangling-backslash case
  1451621716,  -- utils.go|StripDomain|slice|_[1:4]#1   data[1:4]
      -- ^ DnsServer.stripDomain / unescapeF: slice after HasSuffix, pattern matching with the dangling-backslash case
  1408826917,  -- utils.go|StripDomain|slice|_[4:]#1   data[4:]
      -- ^ DnsServer.stripDomain / unescapeF: slice after HasSuffix, pattern matching with the dangling-backslash case
  1849482073,  -- utils.go|StripDomain|slice|_[1:]#4   data[1:]
      -- ^ DnsServer.stripDomain / unescapeF: slice after HasSuffix, pattern matching with the dangling-backslash case
  2352642164,  -- utils.go|StripDomain|index|_[1]#1   data[1]
      -- ^ DnsServer.stripDomain / unescapeF: slice after HasSuffix, pattern matching with the dangling-backslash case
  2046295047,  -- utils.go|StripDomain|slice|_[2:]#1   data[2:]
      -- ^ DnsServer.stripDomain / unescapeF: slice after HasSuffix, pattern matching with the dangling-backslash case
  1791890858,  -- utils.go|ComposeRequest|index|_[_]._[0]#1   questions[i].Name[0]
      -- ^ multi-question branch is outside the quantifier; Question[0] for one-question messages
  3644287159,  -- utils.go|ComposeRequest|index|_[_]#1   questions[i]
      -- ^ multi-question branch is outside the quantifier; Question[0] for one-question messages
  2346654915,  -- utils.go|ComposeRequest|index|_[_]._[1]#1   questions[i].Name[1]
      -- ^ multi-question branch is outside the quantifier; Question[0] for one-question messages
  3661064778,  -- utils.go|ComposeRequest|index|_[_]#2   questions[i]
      -- ^ multi-question branch is outside the quantifier; Question[0] for one-question messages
  1775113239,  -- utils.go|ComposeRequest|index|_[_]._[0]#2   questions[j].Name[0]
      -- ^ multi-question branch is outside the quantifier; Question[0] for one-question messages
  3677842397,  -- utils.go|ComposeRequest|index|_[_]#3   questions[j]
      -- ^ multi-question branch is outside the quantifier; Question[0] for one-question messages
  2363432534,  -- utils.go|ComposeRequest|index|_[_]._[1]#2   questions[j].Name[1]
      -- ^ multi-question branch is outside the quantifier; Question[0] for one-question messages
  3560399064,  -- utils.go|ComposeRequest|index|_[_]#4   questions[j]
      -- ^ multi-question branch is outside the quantifier; Question[0] for one-question messages
  1287998639,  -- utils.go|ComposeRequest|slice|_._[2:]#1   v.Name[2:]
      -- ^ multi-question branch is outside the quantifier; Question[0] for one-question messages
  308232773,  -- utils.go|ComposeRequest|index|_._[0]#1   msg.Question[0]
      -- ^ multi-question branch is outside the quantifier; Question[0] for one-question messages
  897759119,  -- dns_server_connection.go|NewServerDnsListener|index|_._[_._]#1   srv.connections[u.UserId]
      -- ^ pruning task: table[u.UserId] with the invariant uid < MaxUserCount (C13 Inv.uidOk); not on the message path
  914536738,  -- dns_server_connection.go|NewServerDnsListener|index|_._[_._]#2   srv.oldConnections[u.UserId]
      -- ^ pruning task: table[u.UserId] with the invariant uid < MaxUserCount (C13 Inv.uidOk); not on the message path
  931314357,  -- dns_server_connection.go|NewServerDnsListener|index|_._[_._]#3   srv.oldConnections[u.UserId]
      -- ^ pruning task: table[u.UserId] with the invariant uid < MaxUserCount (C13 Inv.uidOk); not on the message path
  526406431,  -- dns_server_connection.go|ServerDnsListener.newUser|index|_._[_]#1   s.connections[i]
      -- ^ index produced by range over the same slice
  1977684437,  -- dns_server_connection.go|ServerDnsListener.closeConnection|index|_._[_._]#1   s.connections[u.UserId]
      -- ^ DnsServer.closeConnection: idxOpt live uid; List.set within bounds by Inv.uidOk
  1927351580,  -- dns_server_connection.go|ServerDnsListener.closeConnection|index|_._[_._]#2   s.connections[u.UserId]
      -- ^ DnsServer.closeConnection: idxOpt live uid; List.set within bounds by Inv.uidOk
  1944129199,  -- dns_server_connection.go|ServerDnsListener.closeConnection|index|_._[_._]#3   s.oldConnections[u.UserId]
      -- ^ DnsServer.closeConnection: idxOpt live uid; List.set within bounds by Inv.uidOk
  3148849124,  -- dns_server_connection.go|ServerDnsListener.validateAndGetUser|index|_._[_]#1   s.connections[userId]
      -- ^ DnsServer.validate: idxOpt live/retired uid, uid < 1296 by decodeHeader_uid_lt
  3199181981,  -- dns_server_connection.go|ServerDnsListener.validateAndGetUser|index|_._[_]#2   s.oldConnections[userId]
      -- ^ DnsServer.validate: idxOpt live/retired uid, uid < 1296 by decodeHeader_uid_lt
  1133613889,  -- dns_server_connection.go|ServerDnsListener.testDownstreamFragmentSize|index|_._[_]#1   resp.Data[i]
      -- ^ loop index i < len(resp.Data)
  3049326351,  -- dns_server_connection.go|ServerDnsListener.testDownstreamEncoder|index|_._[0]#1   m.Question[0]
      -- ^ m.Question[0]: one-question messages (quantifier of C12)
  922538952,  -- dns_server_connection.go|userConnection.Close|callfield|_._#1   u.closer
      -- ^ closer is set by newUser for every session object
  3021178496,  -- server_communicator.go|NetConnectionServerCommunicator.handleRequest|callfield|_._#1   n.onMessage
      -- ^ onMessage is registered by NewServerDnsListener before the server is used (nil check present)
  2723023777,  -- wrap.go|TypePriority|slice|_._[0:2]#1   v.Data[0:2]
      -- ^ DnsClient.typePriority: le16At / idx after the length guards
  2543597881,  -- wrap.go|TypePriority|slice|_._._()[0:2]#1   v.Data.String()[0:2]
      -- ^ DnsClient.typePriority: le16At / idx after the length guards
  781919851,  -- wrap.go|TypePriority|index|_._[0]#1   v.Txt[0]
      -- ^ DnsClient.typePriority: le16At / idx after the length guards
  2961774407,  -- wrap.go|TypePriority|index|_._[0][0]#1   v.Txt[0][0]
      -- ^ DnsClient.typePriority: le16At / idx after the length guards
  798697470,  -- wrap.go|TypePriority|index|_._[0]#2   v.Txt[0]
      -- ^ DnsClient.typePriority: le16At / idx after the length guards
  1890914894,  -- wrap.go|TypePriority|index|_._[0][1]#1   v.Txt[0][1]
      -- ^ DnsClient.typePriority: le16At / idx after the length guards
  815475089,  -- wrap.go|TypePriority|index|_._[0]#3   v.Txt[0]
      -- ^ DnsClient.typePriority: le16At / idx after the length guards
  832252708,  -- wrap.go|TypePriority|index|_._[0]#4   v.Target[0]
      -- ^ DnsClient.typePriority: le16At / idx after the length guards
  445670706,  -- wrap.go|TypePriority|index|_._[1]#1   v.Target[1]
      -- ^ DnsClient.typePriority: le16At / idx after the length guards
  2672690920,  -- wrap.go|TypePriority|slice|_._[0:2]#2   v.AAAA[0:2]
      -- ^ DnsClient.typePriority: le16At / idx after the length guards
  849030327,  -- wrap.go|TypePriority|index|_._[0]#5   v.A[0]
      -- ^ DnsClient.typePriority: le16At / idx after the length guards
  3509031767,  -- wrap.go|WrapDnsResponseA|index|_[0]#1   d[0]
      -- ^ server's own encoded answer: every slice is guarded by the preceding len(data) > n test; Question[0] one-question
  2440456884,  -- wrap.go|WrapDnsResponseA|slice|_[0:3]#1   data[0:3]
      -- ^ server's own encoded answer: every slice is guarded by the preceding len(data) > n test; Question[0] one-question
  2674849106,  -- wrap.go|WrapDnsResponseA|slice|_[3:]#1   data[3:]
      -- ^ server's own encoded answer: every slice is guarded by the preceding len(data) > n test; Question[0] one-question
  2062206839,  -- wrap.go|WrapDnsResponseA|slice|_[0:0]#1   data[0:0]
      -- ^ server's own encoded answer: every slice is guarded by the preceding len(data) > n test; Question[0] one-question
  2295847246,  -- wrap.go|WrapDnsResponseA|index|_._[0]#1   msg.Question[0]
      -- ^ server's own encoded answer: every slice is guarded by the preceding len(data) > n test; Question[0] one-question
  1489973525,  -- wrap.go|WrapDnsResponseAAAA|slice|_[0:14]#1   data[0:14]
      -- ^ server's own encoded answer: every slice is guarded by the preceding len(data) > n test; Question[0] one-question
  2015258745,  -- wrap.go|WrapDnsResponseAAAA|slice|_[14:]#1   data[14:]
      -- ^ server's own encoded answer: every slice is guarded by the preceding len(data) > n test; Question[0] one-question
  3399614932,  -- wrap.go|WrapDnsResponseAAAA|slice|_[0:0]#1   data[0:0]
      -- ^ server's own encoded answer: every slice is guarded by the preceding len(data) > n test; Question[0] one-question
  2097668245,  -- wrap.go|WrapDnsResponseAAAA|index|_._[0]#1   msg.Question[0]
      -- ^ server's own encoded answer: every slice is guarded by the preceding len(data) > n test; Question[0] one-question
  1257873108,  -- wrap.go|WrapDnsResponseCname|index|_[0]#1   d[0]
      -- ^ server's own encoded answer: every slice is guarded by the preceding len(data) > n test; Question[0] one-question
  687133509,  -- wrap.go|WrapDnsResponseCname|index|_[1]#1   d[1]
      -- ^ server's own encoded answer: every slice is guarded by the preceding len(data) > n test; Question[0] one-question
  306564119,  -- wrap.go|WrapDnsResponseCname|slice|_[0:_]#1   data[0:maxLen]
      -- ^ server's own encoded answer: every slice is guarded by the preceding len(data) > n test; Question[0] one-question
  2206208467,  -- wrap.go|WrapDnsResponseCname|slice|_[_:]#1   data[maxLen:]
      -- ^ server's own encoded answer: every slice is guarded by the preceding len(data) > n test; Question[0] one-question
  3717382248,  -- wrap.go|WrapDnsResponseCname|slice|_[0:0]#1   data[0:0]
      -- ^ server's own encoded answer: every slice is guarded by the preceding len(data) > n test; Question[0] one-question
  943897809,  -- wrap.go|WrapDnsResponseCname|index|_._[0]#1   msg.Question[0]
      -- ^ server's own encoded answer: every slice is guarded by the preceding len(data) > n test; Question[0] one-question
  3016581170,  -- wrap.go|WrapDnsResponseSrv|slice|_[0:_]#1   data[0:maxLen]
      -- ^ server's own encoded answer: every slice is guarded by the preceding len(data) > n test; Question[0] one-question
  3996459772,  -- wrap.go|WrapDnsResponseSrv|slice|_[_:]#1   data[maxLen:]
      -- ^ server's own encoded answer: every slice is guarded by the preceding len(data) > n test; Question[0] one-question
  3070827525,  -- wrap.go|WrapDnsResponseSrv|slice|_[0:0]#1   data[0:0]
      -- ^ server's own encoded answer: every slice is guarded by the preceding len(data) > n test; Question[0] one-question
  1951559668,  -- wrap.go|WrapDnsResponseSrv|index|_._[0]#1   msg.Question[0]
      -- ^ server's own encoded answer: every slice is guarded by the preceding len(data) > n test; Question[0] one-question
  852220360,  -- wrap.go|WrapDnsResponseMx|slice|_[0:_]#1   data[0:maxLen]
      -- ^ server's own encoded answer: every slice is guarded by the preceding len(data) > n test; Question[0] one-question
  2715438838,  -- wrap.go|WrapDnsResponseMx|slice|_[_:]#1   data[maxLen:]
      -- ^ server's own encoded answer: every slice is guarded by the preceding len(data) > n test; Question[0] one-question
  4281664567,  -- wrap.go|WrapDnsResponseMx|slice|_[0:0]#1   data[0:0]
      -- ^ server's own encoded answer: every slice is guarded by the preceding len(data) > n test; Question[0] one-question
  2060328334,  -- wrap.go|WrapDnsResponseMx|index|_._[0]#1   msg.Question[0]
      -- ^ server's own encoded answer: every slice is guarded by the preceding len(data) > n test; Question[0] one-question
  1113988854,  -- wrap.go|WrapDnsResponseTxt|index|_[0]#1   d[0]
      -- ^ server's own encoded answer: every slice is guarded by the preceding len(data) > n test; Question[0] one-question
  2205636719,  -- wrap.go|WrapDnsResponseTxt|index|_[1]#1   d[1]
      -- ^ server's own encoded answer: every slice is guarded by the preceding len(data) > n test; Question[0] one-question
  3287020460,  -- wrap.go|WrapDnsResponseTxt|slice|_[0:253]#1   data[0:253]
      -- ^ server's own encoded answer: every slice is guarded by the preceding len(data) > n test; Question[0] one-question
  3231822370,  -- wrap.go|WrapDnsResponseTxt|slice|_[253:]#1   data[253:]
      -- ^ server's own encoded answer: every slice is guarded by the preceding len(data) > n test; Question[0] one-question
  2650473746,  -- wrap.go|WrapDnsResponseTxt|slice|_[0:0]#1   data[0:0]
      -- ^ server's own encoded answer: every slice is guarded by the preceding len(data) > n test; Question[0] one-question
  618712691,  -- wrap.go|WrapDnsResponseTxt|index|_._[0]#1   msg.Question[0]
      -- ^ server's own encoded answer: every slice is guarded by the preceding len(data) > n test; Question[0] one-question
  635490310,  -- wrap.go|WrapDnsResponseTxt|index|_._[0]#2   msg.Question[0]
      -- ^ server's own encoded answer: every slice is guarded by the preceding len(data) > n test; Question[0] one-question
  1396275686,  -- wrap.go|WrapDnsResponsePrivate|slice|_[0:65530]#1   data[0:65530]
      -- ^ server's own encoded answer: every slice is guarded by the preceding len(data) > n test; Question[0] one-question
  3365483568,  -- wrap.go|WrapDnsResponsePrivate|slice|_[65530:]#1   data[65530:]
      -- ^ server's own encoded answer: every slice is guarded by the preceding len(data) > n test; Question[0] one-question
  3982733799,  -- wrap.go|WrapDnsResponsePrivate|slice|_[0:0]#1   data[0:0]
      -- ^ server's own encoded answer: every slice is guarded by the preceding len(data) > n test; Question[0] one-question
  3806673054,  -- wrap.go|WrapDnsResponsePrivate|index|_._[0]#1   msg.Question[0]
      -- ^ server's own encoded answer: every slice is guarded by the preceding len(data) > n test; Question[0] one-question
  3461197790,  -- wrap.go|WrapDnsResponseNull|slice|_[0:65530]#1   data[0:65530]
      -- ^ server's own encoded answer: every slice is guarded by the preceding len(data) > n test; Question[0] one-question
  3180246360,  -- wrap.go|WrapDnsResponseNull|slice|_[65530:]#1   data[65530:]
      -- ^ server's own encoded answer: every slice is guarded by the preceding len(data) > n test; Question[0] one-question
  4166826783,  -- wrap.go|WrapDnsResponseNull|slice|_[0:0]#1   data[0:0]
      -- ^ server's own encoded answer: every slice is guarded by the preceding len(data) > n test; Question[0] one-question
  3993187574,  -- wrap.go|WrapDnsResponseNull|index|_._[0]#1   msg.Question[0]
      -- ^ server's own encoded answer: every slice is guarded by the preceding len(data) > n test; Question[0] one-question
  3744981180,  -- wrap.go|UnwrapDnsResponse|index|_[_]#1   answers[i]
      -- ^ DnsClient.recordData: sliceFrom / slice after the length guards
  3795314037,  -- wrap.go|UnwrapDnsResponse|index|_[_]#2   answers[j]
      -- ^ DnsClient.recordData: sliceFrom / slice after the length guards
  1761588070,  -- wrap.go|UnwrapDnsResponse|slice|_._[2:]#1   v.Data[2:]
      -- ^ DnsClient.recordData: sliceFrom / slice after the length guards
  3552879045,  -- wrap.go|UnwrapDnsResponse|slice|_[2:]#1   data[2:]
      -- ^ DnsClient.recordData: sliceFrom / slice after the length guards
  3502546188,  -- wrap.go|UnwrapDnsResponse|slice|_[2:]#2   data[2:]
      -- ^ DnsClient.recordData: sliceFrom / slice after the length guards
  2034234169,  -- wrap.go|UnwrapDnsResponse|slice|_[0:_(_)-_(_)-2]#1   data[0 : len(data)-len(domain)-2]
      -- ^ DnsClient.recordData: sliceFrom / slice after the length guards
  1983901312,  -- wrap.go|UnwrapDnsResponse|slice|_[0:_(_)-_(_)-2]#2   data[0 : len(data)-len(domain)-2]
      -- ^ DnsClient.recordData: sliceFrom / slice after the length guards
  1744810451,  -- wrap.go|UnwrapDnsResponse|slice|_._[2:]#2   v.Target[2:]
      -- ^ DnsClient.recordData: sliceFrom / slice after the length guards
  2000678931,  -- wrap.go|UnwrapDnsResponse|slice|_[0:_(_)-_(_)-2]#3   data[0 : len(data)-len(domain)-2]
      -- ^ DnsClient.recordData: sliceFrom / slice after the length guards
  1728032832,  -- wrap.go|UnwrapDnsResponse|slice|_._[2:]#3   v.AAAA[2:]
      -- ^ DnsClient.recordData: sliceFrom / slice after the length guards
  241583979  -- wrap.go|UnwrapDnsResponse|slice|_._[1:]#1   v.A[1:]
      -- ^ DnsClient.recordData: sliceFrom / slice after the length guards
]

end SA.DnsServer
