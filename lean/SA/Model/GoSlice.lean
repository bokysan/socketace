/-
  SA.Model.GoSlice — Go's partial operations made explicit (C12).

  `Res α` is "a Go expression of type α that may panic".  Indexing, slicing and calling a func-typed
  struct field are the operations of the DNS decoders that can panic; they are modelled *strictly*:
  `slice s lo hi` panics unless `lo ≤ hi ≤ len s` (Go would still allow `hi ≤ cap s` on a byte slice and
  read stale bytes; a model that panics more often than Go keeps every no-panic theorem sound for Go).
-/
namespace SA.Go

inductive Res (α : Type) where
  | ok : α → Res α
  | panic : Res α
  deriving Repr, DecidableEq

namespace Res

def bind {α β : Type} (x : Res α) (f : α → Res β) : Res β :=
  match x with
  | ok a => f a
  | panic => panic

instance : Monad Res where
  pure := ok
  bind := bind

def isPanic {α : Type} : Res α → Bool
  | ok _ => false
  | panic => true

@[simp] theorem bind_ok {α β : Type} (a : α) (f : α → Res β) : (ok a >>= f) = f a := rfl
@[simp] theorem bind_panic {α β : Type} (f : α → Res β) : ((panic : Res α) >>= f) = panic := rfl
@[simp] theorem pure_eq {α : Type} (a : α) : (pure a : Res α) = ok a := rfl

end Res

open Res

/-- `s[i]` -/
def idx (s : List Nat) (i : Nat) : Res Nat :=
  match s[i]? with
  | some x => ok x
  | none => panic

/-- `s[lo:]` -/
def sliceFrom (s : List Nat) (lo : Nat) : Res (List Nat) :=
  if lo ≤ s.length then ok (s.drop lo) else panic

/-- `s[lo:hi]` (strict: `hi ≤ len s`) -/
def slice (s : List Nat) (lo hi : Nat) : Res (List Nat) :=
  if lo ≤ hi ∧ hi ≤ s.length then ok ((s.take hi).drop lo) else panic

/-- calling a func-typed field that may be nil: `present = false` is a nil-pointer call -/
def callField {α : Type} (present : Bool) (result : α) : Res α :=
  if present then ok result else panic

/-- `tbl[i]` on a slice of pointers -/
def idxOpt {α : Type} (s : List (Option α)) (i : Nat) : Res (Option α) :=
  match s[i]? with
  | some x => ok x
  | none => panic

theorem idx_ok {s : List Nat} {i : Nat} (h : i < s.length) : idx s i = ok s[i] := by
  simp [idx, h]

theorem sliceFrom_ok {s : List Nat} {lo : Nat} (h : lo ≤ s.length) : sliceFrom s lo = ok (s.drop lo) := by
  simp [sliceFrom, h]

theorem slice_ok {s : List Nat} {lo hi : Nat} (h1 : lo ≤ hi) (h2 : hi ≤ s.length) :
    slice s lo hi = ok ((s.take hi).drop lo) := by
  simp [slice, h1, h2]

theorem idxOpt_some {α : Type} {s : List (Option α)} {i : Nat} {x : Option α} (h : s[i]? = some x) : idxOpt s i = ok x := by
  simp only [idxOpt, h]

theorem idxOpt_none {α : Type} {s : List (Option α)} {i : Nat} (h : s[i]? = none) : idxOpt s i = panic := by
  simp only [idxOpt, h]

theorem idxOpt_ok {α : Type} {s : List (Option α)} {i : Nat} (h : i < s.length) : idxOpt s i = ok s[i] :=
  idxOpt_some (List.getElem?_eq_getElem h)

theorem Res.ite_no_panic {α : Type} {c : Prop} [Decidable c] {a b : Res α} (ha : ∃ r, a = ok r) (hb : ∃ r, b = ok r) :
    ∃ r, (if c then a else b) = ok r := by
  split <;> assumption

theorem Res.ite_eq {α : Type} {c : Prop} [Decidable c] {a b x : Res α} (h : (if c then a else b) = x) :
    c ∧ a = x ∨ ¬ c ∧ b = x := by
  split at h
  · exact .inl ⟨‹_›, h⟩
  · exact .inr ⟨‹_›, h⟩

end SA.Go
