/-
  SA.Model.DnsServer — the DNS-tunnel server's message handler (C12 server half, C13).

  Mirrors internal/streams/dns/dns_server_connection.go (onMessage, newUser, validateAndGetUser, packet,
  version, setOptionsRequest, testDownstreamFragmentSize, testUpstreamEncoder, testDownstreamEncoder,
  closeConnection), commands/{commands,serializer,utils,cmd_*}.go (request decoding) and the parts of
  util/queue.go the handler calls (InQueue.Append, OutQueue.UpdateAcked / NextChunk / Write's chunking).

  * Session objects are Go pointers: the model keeps a heap (`Srv.heap`, index = creation ordinal `sid`) and the two
    tables `live` / `retired` hold sids.
  * Indexing / slicing / nil-func calls are explicit (`SA.Go.Res`), so "the handler cannot panic" is a statement
    about this function.
  * The codecs (internal/util/enc, third-party base32/64/85/91/128) are *parameters*: `Codec.dec code input`
    is what `enc.FromCode(code).Decode(input)` returns (`none` = error) and `Codec.encLen code n` the length of
    `Encode` of n bytes.  Theorems quantify over every `Codec`; the executable driver reads `dec` from the op line.
-/
import SA.Base.Util
import SA.Model.GoSlice
import SA.Gen.Consts
import SA.Gen.C12
import SA.Gen.C13

namespace SA.DnsServer
open SA.Go SA.Go.Res

/-! ### queues (util/queue.go, the operations reachable from a message) -/

structure InQ where
  next : Nat := 0
  buf : List Nat := []
  future : List (Nat × List Nat) := []
  acked : List Nat := []
  deriving DecidableEq, Repr

structure OutQ where
  next : Nat := 0
  out : List (Nat × List Nat) := []
  acked : List Nat := []
  hasData : Bool := false
  deriving DecidableEq, Repr

def u16 (n : Nat) : Nat := n % 65536

/-- the `for len(q.future) > 0 && added` loop of Append: move in-order packets out of `future` (fuel = |future|) -/
def drainFuture : Nat → InQ → InQ
  | 0, q => q
  | fuel + 1, q =>
    match q.future.find? (fun f => f.1 == q.next) with
    | none => q
    | some f =>
      drainFuture fuel { q with buf := q.buf ++ f.2, next := u16 (q.next + 1),
                                future := q.future.eraseP (fun g => g.1 == q.next) }

/-- is `seq` one of NextSeqNo+1 … NextSeqNo+MaxCachedChunks-1 (uint16 arithmetic)? -/
def inWindow (next seq : Nat) : Bool :=
  let d := u16 (seq + 65536 - next)
  1 ≤ d && d < SA.Gen.maxCachedChunks

/-- InQueue.Append; `none` = ErrInvalidSequenceNumber -/
def InQ.append (q : InQ) (pkt : Option (Nat × List Nat)) : Option InQ :=
  match pkt with
  | none => some q
  | some (seq, data) =>
    if q.acked.contains seq then some q
    else if seq == q.next then
      let q1 : InQ := { q with buf := q.buf ++ data, next := u16 (q.next + 1), acked := q.acked ++ [seq] }
      let q2 := drainFuture q1.future.length q1
      some (if q2.acked.length > SA.Gen.maxCachedChunks then { q2 with acked := q2.acked.drop 1 } else q2)
    else if inWindow q.next seq then
      some { q with future := q.future ++ [(seq, data)], acked := q.acked ++ [seq] }
    else none

/-- OutQueue.cleanAckedChunks -/
def OutQ.clean (q : OutQ) : OutQ :=
  let out := q.acked.foldl (fun o a => o.eraseP (fun c => c.1 == a)) q.out
  let acked := if q.acked.length > SA.Gen.maxCachedChunks then q.acked.drop (q.acked.length - SA.Gen.maxCachedChunks) else q.acked
  { q with out := out, acked := acked, hasData := !out.isEmpty }

def OutQ.updateAcked (q : OutQ) (seq : Nat) : OutQ :=
  if q.acked.contains seq then q else ({ q with acked := q.acked ++ [seq] } : OutQ).clean

/-- OutQueue.NextChunk -/
def OutQ.nextChunk (q : OutQ) : OutQ × Option (Nat × List Nat) :=
  let q' := q.clean
  (q', q'.out.head?)

/-- the chunking loop of OutQueue.Write for mtu > 0 (fuel = |b|) -/
def chunks : Nat → Nat → List Nat → List (List Nat)
  | 0, _, _ => []
  | fuel + 1, mtu, b => if b.isEmpty then [] else if b.length > mtu then b.take mtu :: chunks fuel mtu (b.drop mtu) else [b]

def OutQ.addChunks (q : OutQ) : List (List Nat) → OutQ
  | [] => q
  | c :: cs => OutQ.addChunks { q with out := q.out ++ [(q.next, c)], next := u16 (q.next + 1) } cs

/-! ### sessions and the server -/

structure Sess where
  uid : Nat
  owner : Nat
  last : Nat
  closed : Bool := false
  up : Nat := 84
  down : Nat := 84
  frag : Nat := SA.Gen.defaultDownstreamFragmentSize
  lazy : Bool := false
  multi : Bool := false
  inq : InQ := {}
  outq : OutQ := {}
  deriving DecidableEq, Repr

instance : Inhabited Sess := ⟨{ uid := 0, owner := 0, last := 0 }⟩

structure Srv where
  live : List (Option Nat)
  retired : List (Option Nat)
  heap : List Sess
  now : Nat
  deriving DecidableEq, Repr

def Srv.init : Srv :=
  { live := List.replicate SA.Gen.maxUsers none, retired := List.replicate SA.Gen.maxUsers none, heap := [], now := 0 }

def Srv.sess (σ : Srv) (sid : Nat) : Sess := σ.heap.getD sid default

def Srv.modify (σ : Srv) (sid : Nat) (f : Sess → Sess) : Srv :=
  { σ with heap := σ.heap.set sid (f (σ.sess sid)) }

inductive VErr where
  | ok | badIp | badConn | badUser
  deriving DecidableEq, Repr

/-- validateAndGetUser: `s.connections[userId]` is an index into a fixed-size slice -/
def validate (σ : Srv) (uid addr : Nat) : Res (Srv × Option Nat × VErr) := do
  let l ← idxOpt σ.live uid
  match l with
  | none =>
    let r ← idxOpt σ.retired uid
    match r with
    | some rs => if (σ.sess rs).owner = addr then pure (σ, some rs, .badConn) else pure (σ, none, .badUser)
    | none => pure (σ, none, .badUser)
  | some ls =>
    if (σ.sess ls).owner ≠ addr then pure (σ, some ls, .badIp)
    else pure (σ.modify ls (fun s => { s with last := σ.now }), some ls, .ok)

/-- index of the first `none` -/
def firstFree : List (Option Nat) → Option Nat
  | [] => none
  | none :: _ => some 0
  | some _ :: r => (firstFree r).map (· + 1)

/-- newUser -/
def newUser (σ : Srv) (addr : Nat) : Srv × Option Nat :=
  match firstFree σ.live with
  | none => (σ, none)
  | some i =>
    let sid := σ.heap.length
    ({ σ with live := σ.live.set i (some sid), heap := σ.heap ++ [{ uid := i, owner := addr, last := σ.now }] }, some i)

/-- closeConnection(u) for the session object `sid` -/
def closeConnection (σ : Srv) (sid : Nat) : Res Srv := do
  let u := σ.sess sid
  let cur ← idxOpt σ.live u.uid
  if cur ≠ some sid then pure σ else
  let (σ1, _, e) ← validate σ u.uid u.owner
  if e ≠ .ok then pure σ1 else
  pure ({ σ1 with live := σ1.live.set u.uid none, retired := σ1.retired.set u.uid (some sid) }.modify sid
          (fun s => { s with closed := true }))

/-! ### request decoding (commands/*.go) -/

structure Codec where
  dec : Nat → List Nat → Option (List Nat)
  encLen : Nat → Nat → Nat
  /-- inputs on which the real `Decode` does not return at all (a Go panic inside the decoder, e.g. an inverse
      alphabet table that does not cover every octet) -/
  panics : Nat → List Nat → Bool := fun _ _ => false

/-- the decoders are total functions: `Decode` returns (a value or an error) on every input.  This is the explicit
    hypothesis of the no-panic theorems; the harness ties it to the real decoders by an exhaustive sweep (every single
    octet and every pair of octets, every registered codec) and by recording `PANIC` oracle entries otherwise. -/
def Codec.Total (cd : Codec) : Prop := ∀ c i, cd.panics c i = false

/-- one call of `enc.FromCode(code).Decode(input)`: panics where the decoder does -/
def Codec.decode (cd : Codec) (c : Nat) (i : List Nat) : Res (Option (List Nat)) :=
  if cd.panics c i then .panic else .ok (cd.dec c i)

def asciiLower (b : Nat) : Nat := if 65 ≤ b ∧ b ≤ 90 then b + 32 else b
def asciiUpper (b : Nat) : Nat := if 97 ≤ b ∧ b ≤ 122 then b - 32 else b

/-- `strings.ToLower(string(data[0:1]))[0]`: a byte ≥ 0x80 is invalid UTF-8 and becomes U+FFFD (EF BF BD) -/
def lowerFirst (b : Nat) : Nat := if b < 128 then asciiLower b else 239

/-- Command.IsOfType -/
def isOfType (code : Nat) (data : List Nat) : Res Bool :=
  if data.length = 0 then pure false else do
    let b ← idx data 0
    if b = code then pure true else do
      let s ← slice data 0 1
      let c ← idx (s.map lowerFirst) 0
      pure (c = code)

/-- commands.StripDomain (fixed code: a dangling backslash is dropped).  `dom` is the tunnel domain. -/
def unescapeF : Nat → List Nat → List Nat
  | 0, _ => []
  | _ + 1, [] => []
  | f + 1, 46 :: r => unescapeF f r
  | f + 1, 92 :: a :: b :: c :: r' =>
    if 48 ≤ a ∧ a ≤ 57 ∧ 48 ≤ b ∧ b ≤ 57 ∧ 48 ≤ c ∧ c ≤ 57 then
      (((a - 48) * 100 + (b - 48) * 10 + (c - 48)) % 256) :: unescapeF f r'
    else a :: unescapeF f (b :: c :: r')
  | f + 1, 92 :: a :: r => a :: unescapeF f r
  | _ + 1, [92] => []
  | f + 1, c :: r => c :: unescapeF f r

/-- the loop of StripDomain (every iteration consumes at least one byte, so |data| iterations suffice) -/
def unescape (d : List Nat) : List Nat := unescapeF d.length d

def hasSuffixFold (data suffix : List Nat) : Bool :=
  suffix.length ≤ data.length && (data.drop (data.length - suffix.length)).map asciiLower == suffix.map asciiLower

def stripDomain (data dom : List Nat) : Res (List Nat) := do
  let sfx := [46] ++ dom ++ [46]
  let d ← if hasSuffixFold data sfx then slice data 0 (data.length - (dom.length + 2)) else pure data
  pure (unescape d)

def digit36 (c : Nat) : Option Nat :=
  if 48 ≤ c ∧ c ≤ 57 then some (c - 48)
  else if 97 ≤ c ∧ c ≤ 122 then some (c - 87)
  else if 65 ≤ c ∧ c ≤ 90 then some (c - 55)
  else none

/-- strconv.ParseUint(two characters, 36, 16) -/
def parse36 (s : List Nat) : Option Nat :=
  match s with
  | [a, b] => do
    let x ← digit36 a
    let y ← digit36 b
    pure (x * 36 + y)
  | _ => none

/-- DecodeRequestHeader (after ValidateType): `none` = error returned -/
def decodeHeader (needsUser : Bool) (req : List Nat) : Res (Option (List Nat × Nat)) :=
  if req.length < 4 then pure none else do
    let req ← sliceFrom req 4
    if needsUser then
      if req.length < 2 then pure none else do
        let two ← slice req 0 2
        match parse36 two with
        | none => pure none
        | some uid => do
          let rest ← sliceFrom req 2
          pure (some (rest, uid))
    else pure (some (req, 0))

def le16 (b : List Nat) : Option (Nat × List Nat) :=
  match b with
  | x :: y :: r => some (x + 256 * y, r)
  | _ => none

def le32 (b : List Nat) : Option (Nat × List Nat) :=
  match b with
  | x :: y :: z :: w :: r => some (x + 256 * y + 65536 * z + 16777216 * w, r)
  | _ => none

/-- enc.FromCode: upper-cased code looked up in the encoder list; a byte ≥ 0x80 never matches -/
def fromCode (b : Nat) : Option Nat :=
  if b < 128 then (if SA.Gen.encoderCodes.contains (asciiUpper b) then some (asciiUpper b) else none) else none

/-- SetOptionsRequest.readBool on the next byte -/
def tri (v : Nat) : Option Bool := if v = 1 then some true else if v = 0 then some false else none

structure Options where
  lazy : Option Bool := none
  multi : Option Bool := none
  closed : Option Bool := none
  down : Option Nat := none
  up : Option Nat := none
  frag : Option Nat := none
  deriving DecidableEq, Repr

inductive Req where
  | version (v : Nat)
  | options (uid : Nat) (o : Options)
  | fragTest (uid size : Nat)
  | downTest (code : Nat)
  | upTest (uid : Nat) (pattern : List Nat)
  | packet (uid ack : Nat) (pkt : Option (Nat × List Nat))
  deriving DecidableEq, Repr

/-- SetOptionsRequest.Decode after the base32 step; `none` = error.  A body that ends inside the three flags is
    accepted with the flags read so far (the code returns nil there). -/
def decodeOptionsBody (uid : Nat) (d : List Nat) : Option Req :=
  match d with
  | [] => some (.options uid {})
  | a :: [] => some (.options uid { lazy := tri a })
  | a :: b :: [] => some (.options uid { lazy := tri a, multi := tri b })
  | a :: b :: c :: r =>
    let o : Options := { lazy := tri a, multi := tri b, closed := tri c }
    match r with
    | [] => none
    | dn :: r1 =>
      match (if dn = 32 then some none else (fromCode dn).map some) with
      | none => none
      | some down =>
        match r1 with
        | [] => none
        | upc :: r2 =>
          match (if upc = 32 then some none else (fromCode upc).map some) with
          | none => none
          | some up =>
            match le32 r2 with
            | none => none
            | some (f, _) => some (.options uid { o with down := down, up := up, frag := if f = 4294967295 then none else some f })

/-- PacketRequest.Decode after the codec step -/
def decodePacketBody (uid : Nat) (d : List Nat) : Option Req :=
  match le16 d with
  | none => none
  | some (ack, r) =>
    match r with
    | [] => none
    | has :: r1 =>
      if has % 2 = 1 then
        match le16 r1 with
        | none => none
        | some (seq, data) => some (.packet uid ack (some (seq, data)))
      else some (.packet uid ack none)

/-- Serializer.DecodeDnsRequest for the command with letter `code` (whose NewRequest is `hasReq`), with upstream
    encoder `up`.  Outer `Res`: panics; inner `Option`: decode error (→ BADCODEC). -/
def decodeRequest (cd : Codec) (code : Nat) (needsUser hasReq : Bool) (up : Nat) (req : List Nat) : Res (Option Req) := do
  let _ ← callField hasReq ()          -- req := c.NewRequest()
  let h ← decodeHeader needsUser req    -- every Decode starts with DecodeRequestHeader
  match h with
  | none => pure none
  | some (body, uid) =>
    if code = 118 then       -- 'v'
      do let r ← cd.decode 84 body
         pure (r.bind fun d => (le32 d).map fun p => Req.version p.1)
    else if code = 111 then  -- 'o'
      do let r ← cd.decode 84 body
         pure (r.bind (decodeOptionsBody uid))
    else if code = 114 then  -- 'r'
      do let r ← cd.decode 84 body
         pure (r.bind fun d => (le32 d).map fun p => Req.fragTest uid p.1)
    else if code = 121 then  -- 'y'
      if body.length = 0 then pure none else do
        let c ← idx body 0
        pure ((fromCode c).map Req.downTest)
    else if code = 122 then  -- 'z'
      pure (some (.upTest uid body))
    else if code = 99 then   -- 'c'
      do let r ← cd.decode up body
         pure (r.bind (decodePacketBody uid))
    else pure none

/-! ### answers -/

inductive Ans where
  /-- onMessage returned `(msg, err)`: the answer could not be wrapped in the requested record type -/
  | drop
  /-- onMessage returned `(nil, err)`: the request header cannot be decoded, there is no answer object at all -/
  | ignored
  | err (cmd : Nat) (e : String)
  | version (uid : Nat)
  | optionsOk
  | frag (size : Nat)
  | upOk (data : List Nat)
  | downOk (code : Nat)
  | pktOk (ack : Nat) (pkt : Option (Nat × List Nat))
  deriving DecidableEq, Repr

def ceilDiv (a b : Nat) : Nat := (a + b - 1) / b

/-- util.GetLongestDataString -/
def longestData (domLen : Nat) : Nat :=
  let space := SA.Gen.hostnameMaxLen - domLen - 2 - 1
  space - ceilDiv space SA.Gen.labelMaxLen

/-- util.PrepareHostname returns ErrTooLong for n data bytes -/
def hostTooLong (domLen n : Nat) : Bool :=
  (if n > SA.Gen.labelMaxLen then n + (n - 1) / 57 else n) + domLen + 2 > SA.Gen.hostnameMaxLen - 2

/-- does util.WrapDnsResponse fail for L bytes of (already encoded) data? -/
def wrapFails (qtype domLen L : Nat) : Bool :=
  if qtype = SA.Gen.c12QueryTypeNull ∨ qtype = SA.Gen.c12QueryTypePrivate ∨ qtype = 16 ∨ qtype = 33 ∨ qtype = 28 then false
  else if qtype = 1 then decide (ceilDiv L 3 > 255)
  else if qtype = 15 then hostTooLong domLen (min L (longestData domLen))
  else if qtype = 5 then hostTooLong domLen (2 + min L (longestData domLen))
  else true

structure Msg where
  addr : Nat
  qtype : Nat
  name : List Nat
  hint : Nat := 84
  deriving DecidableEq, Repr

/-- an answer leaves the server only if WrapDnsResponse accepts its encoded length: `prefix` unencoded bytes plus
    `n` bytes encoded with `code` -/
def finish (cd : Codec) (m : Msg) (domLen : Nat) (pfx code n : Nat) (a : Ans) : Ans :=
  if wrapFails m.qtype domLen (pfx + cd.encLen code n) then .drop else a

/-- an error answer of command `cmd`: `pfx` unencoded bytes, then `extra` bytes and the error text encoded with `code` -/
def errAns (cd : Codec) (m : Msg) (domLen : Nat) (cmd : Nat) (pfx code extra : Nat) (e : String) : Ans :=
  finish cd m domLen pfx code (extra + e.length) (.err cmd e)

def vErrName : VErr → String
  | .ok => "OK"
  | .badIp => SA.Gen.errBadIp
  | .badConn => SA.Gen.errBadConn
  | .badUser => SA.Gen.errBadUser

/-! ### handlers -/

/-- the downstream codec of `user.Serializer` when a user was found, of the default serializer otherwise -/
def downOf (σ : Srv) (user : Option Nat) : Nat :=
  match user with
  | some s => (σ.sess s).down
  | none => 84

def hPacket (cd : Codec) (domLen : Nat) (σ : Srv) (m : Msg) (uid ack : Nat) (pkt : Option (Nat × List Nat)) : Res (Srv × Ans) := do
  let (σ1, user, e) ← validate σ uid m.addr
  let code := downOf σ1 user
  match user, e with
  | some s, .ok =>
    let u := σ1.sess s
    let outq := u.outq.updateAcked ack
    match u.inq.append pkt with
    | none => pure (σ1.modify s (fun x => { x with outq := outq }), finish cd m domLen 1 code 70 (.err 99 "other"))
    | some inq =>
      let (outq', chunk) := outq.nextChunk
      let σ2 := σ1.modify s (fun x => { x with inq := inq, outq := outq' })
      let ack' := u16 (inq.next + 65535)
      match chunk with
      | none => pure (σ2, finish cd m domLen 1 code 3 (.pktOk ack' none))
      | some c => pure (σ2, finish cd m domLen 1 code (5 + c.2.length) (.pktOk ack' (some c)))
  | _, e => pure (σ1, errAns cd m domLen 99 1 code 1 (vErrName e))

def hVersion (cd : Codec) (domLen : Nat) (σ : Srv) (m : Msg) (v : Nat) : Srv × Ans :=
  if v ≠ SA.Gen.protocolVersion then (σ, errAns cd m domLen 118 3 84 5 SA.Gen.errBadVersion)
  else match newUser σ m.addr with
    | (σ1, some uid) => (σ1, finish cd m domLen 3 84 5 (.version uid))
    | (σ1, none) => (σ1, errAns cd m domLen 118 3 84 5 SA.Gen.errServerFull)

def applyOptions (s : Sess) (o : Options) : Sess :=
  let s := match o.up with | some c => { s with up := c } | none => s
  let s := match o.down with | some c => { s with down := c } | none => s
  let s := match o.frag with | some f => { s with frag := f } | none => s
  let s := match o.lazy with | some b => { s with lazy := b } | none => s
  match o.multi with | some b => { s with multi := b } | none => s

/-- the range check of setOptionsRequest on the requested downstream fragment size -/
def badFrag : Option Nat → Bool
  | some f => f == 0 || decide (f > SA.Gen.maxDownstreamFragmentSize)
  | none => false

def hOptions (cd : Codec) (domLen : Nat) (σ : Srv) (m : Msg) (uid : Nat) (o : Options) : Res (Srv × Ans) := do
  let (σ1, user, e) ← validate σ uid m.addr
  match user, e with
  | some s, .ok =>
    if o.closed = some true then do
      let σ2 ← closeConnection σ1 s
      pure (σ2, finish cd m domLen 1 84 1 .optionsOk)
    else if badFrag o.frag then
      pure (σ1, errAns cd m domLen 111 1 84 1 SA.Gen.errBadFrag)
    else pure (σ1.modify s (fun x => applyOptions x o), finish cd m domLen 1 84 1 .optionsOk)
  | _, e => pure (σ1, errAns cd m domLen 111 1 84 1 (vErrName e))

def hFragTest (cd : Codec) (domLen : Nat) (σ : Srv) (m : Msg) (uid size : Nat) : Res (Srv × Ans) := do
  let (σ1, user, e) ← validate σ uid m.addr
  let code := downOf σ1 user
  match e with
  | .ok =>
    if size > SA.Gen.maxDownstreamFragmentSize then pure (σ1, errAns cd m domLen 114 1 code 1 SA.Gen.errBadFrag)
    else pure (σ1, finish cd m domLen 1 code (5 + size) (.frag size))
  | e => pure (σ1, errAns cd m domLen 114 1 code 1 (vErrName e))

def hUpTest (cd : Codec) (domLen : Nat) (σ : Srv) (m : Msg) (uid : Nat) (pattern : List Nat) : Res (Srv × Ans) := do
  let (σ1, _, e) ← validate σ uid m.addr
  match e with
  | .ok => pure (σ1, finish cd m domLen 1 84 (1 + pattern.length) (.upOk pattern))
  | e => pure (σ1, errAns cd m domLen 122 1 84 1 (vErrName e))

def downloadCodecCheckLen : Nat := 48

def hDownTest (cd : Codec) (domLen : Nat) (σ : Srv) (m : Msg) (code : Nat) : Srv × Ans :=
  (σ, finish cd m domLen 2 code downloadCodecCheckLen (.downOk code))

/-- the upstream codec of `user.Serializer` when a user was found, of the default serializer otherwise -/
def upOf (σ : Srv) (user : Option Nat) : Nat :=
  match user with
  | some s => (σ.sess s).up
  | none => 84

/-- first entry of the command table whose letter matches the request -/
def findCmd : List (Nat × Bool × Bool × Bool) → List Nat → Res (Option (Nat × Bool × Bool × Bool))
  | [], _ => pure none
  | c :: cs, req => do
    let t ← isOfType c.1 req
    if t then pure (some c) else findCmd cs req

/-- ServerDnsListener.onMessage for a message with one question -/
def onMessage (cd : Codec) (dom : List Nat) (σ : Srv) (m : Msg) : Res (Srv × Ans) := do
  let domLen := dom.length
  let request ← stripDomain m.name dom
  let c ← findCmd SA.Gen.commandTable request
  let badCommand := errAns cd m domLen 101 1 84 0 SA.Gen.errBadCommand
  match c with
  | none => pure (σ, badCommand)
  | some (code, needsUser, hasReq, _) =>
    if !hasReq then pure (σ, badCommand) else do
    let h ← decodeHeader needsUser request
    match h with
    | none => pure (σ, .ignored)
    | some (_, uid) =>
      let (σ1, user, uerr) ← validate σ uid m.addr
      let up := upOf σ1 user
      if user.isNone && needsUser then pure (σ1, errAns cd m domLen 101 1 84 0 SA.Gen.errBadUser)
      else if user.isSome && uerr = .badConn then pure (σ1, errAns cd m domLen 101 1 84 0 SA.Gen.errBadConn)
      else do
        let r ← decodeRequest cd code needsUser hasReq up request
        match r with
        | none => pure (σ1, errAns cd m domLen 101 1 84 0 SA.Gen.errBadCodec)
        | some (.downTest code') => pure (hDownTest cd domLen σ1 m code')
        | some (.upTest u p) => hUpTest cd domLen σ1 m u p
        | some (.fragTest u n) => hFragTest cd domLen σ1 m u n
        | some (.options u o) => hOptions cd domLen σ1 m u o
        | some (.version v) => pure (hVersion cd domLen σ1 m v)
        | some (.packet u a p) => hPacket cd domLen σ1 m u a p

/-! ### application side -/

/-- userConnection.Write as the harness drives it (returns after the last chunk; skipped while the queue still
    reports unacknowledged data) -/
def appWrite (σ : Srv) (sid : Nat) (data : List Nat) : Srv :=
  if sid < σ.heap.length ∧ data ≠ [] then
    let u := σ.sess sid
    if u.closed ∨ u.outq.hasData ∨ u.frag = 0 then σ
    else σ.modify sid (fun x => { x with outq := x.outq.addChunks (chunks data.length x.frag data) })
  else σ

def appClose (σ : Srv) (sid : Nat) : Res Srv :=
  if sid < σ.heap.length then closeConnection σ sid else pure σ

end SA.DnsServer
