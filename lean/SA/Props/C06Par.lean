/-
  C06, continued — the handshakes of several peers at the same moment.

  Every listener serves each accepted connection on a goroutine of its own; opening handshakes — sessions and
  refusals alike — overlap in one process.  "No byte sequence sent by a client can crash the process" is stated
  per connection; it is a property of the *process* only if a handshake is a function of its own connection: of the
  configuration it was accepted under and of the bytes its peer sends, while any number of other connections, with
  any bytes, are being handled.  (In Go this matters beyond wrong answers: a map written from two goroutines makes
  the runtime abort the whole process with `fatal error: concurrent map writes`, which no `recover` can prevent.)

  In the model this holds by construction (`serverRun` / `clientRun` are functions; a batch is `List.map`), and the
  theorems below put it on the books.  What ties the statement to the Go code is the `par` form of `hs-server` /
  `hs-client` (go/harness/c06_par.go): G goroutines released together drive independent real NewServerConnection /
  NewClientConnection calls in a child process; a dead child, an outcome or a written byte that differs from the same
  connection handled alone is the failing input.  A package-level header map, buffer, Request/Response object or reader
  shared between connections makes the implementation differ from this model on some interleaving;
  `C06_no_hidden_process_state` (regenerated inventory of package-level variables) is the static side of the same
  statement.
-/
import SA.Props.C06
import SA.Drv.Handshake
import SA.Proofs.ParOp
namespace SA.Handshake
open SA.Drv.Handshake

/-- one connection in flight on a server: the configuration it was accepted under, what crypto/tls would report,
    and the transport reads its peer's bytes arrive in -/
structure SrvConn where
  cfg : SrvCfg
  tls : B → Bool
  chunks : List B

/-- the server's handling of a batch of connections at the same moment (any interleaving): the model has no state
    a connection could leave behind or share, so it is the list of the single results -/
def serverBatch (cs : List SrvConn) : List SrvResult := cs.map fun c => serverRun c.cfg c.tls c.chunks

structure CliConn where
  secure : Bool
  tls : B → Bool
  chunks : List B

def clientBatch (cs : List CliConn) : List CliResult := cs.map fun c => clientRun c.secure c.tls c.chunks

/-- **batches are pointwise (server).**  The result for the connection at any position of a batch is the result of
    that connection alone — whatever is handled before, after and next to it. -/
theorem C06_batch_pointwise (pre post : List SrvConn) (c : SrvConn) :
    (serverBatch (pre ++ c :: post))[pre.length]? = some (serverRun c.cfg c.tls c.chunks) := by
  simp [serverBatch]

/-- **batches are pointwise (client).** -/
theorem C06_batch_pointwise_client (pre post : List CliConn) (c : CliConn) :
    (clientBatch (pre ++ c :: post))[pre.length]? = some (clientRun c.secure c.tls c.chunks) := by
  simp [clientBatch]

/-- **no batch of byte sequences crashes the server**: whatever bytes any number of clients send at the same
    moment, under whatever segmentation each, no connection's handshake reaches a panic. -/
theorem C06_concurrent_no_panic_server (cs : List SrvConn) : ∀ r ∈ serverBatch cs, r.out ≠ .panic := by
  intro r hr
  obtain ⟨c, _, rfl⟩ := List.mem_map.mp hr
  exact C06_no_panic_server c.cfg c.tls c.chunks

/-- **… nor the client** -/
theorem C06_concurrent_no_panic_client (cs : List CliConn) : ∀ r ∈ clientBatch cs, r.out ≠ .panic := by
  intro r hr
  obtain ⟨c, _, rfl⟩ := List.mem_map.mp hr
  exact C06_no_panic_client c.secure c.tls c.chunks

/-- **every member of a batch is a session, a refusal with one of the listed codes, or a closed connection** — the
    per-connection dichotomy of `C06_else_refused`, for connections handled at the same moment -/
theorem C06_concurrent_else_refused (cs : List SrvConn) : ∀ r ∈ serverBatch cs, SessionOrRefusedOrClosed r := by
  intro r hr
  obtain ⟨c, _, rfl⟩ := List.mem_map.mp hr
  exact C06_else_refused c.cfg c.tls c.chunks

/-- **segmentation independence inside a batch**: re-cutting the transport reads of every member changes no result -/
theorem C06_concurrent_segmentation_independent (cs : List SrvConn) :
    serverBatch cs = serverBatch (cs.map fun c => { c with chunks := [c.chunks.flatten] }) := by
  simp only [serverBatch, List.map_map]
  apply List.map_congr_left
  intro c _
  exact C06_segmentation_independent c.cfg c.tls c.chunks

/-- **the `par` op of the line protocol is the map of the single ops** — independent of the number of goroutines
    and of repetitions (the model the concurrent drive of the real code is compared with) -/
theorem C06_par_op_pointwise (one : List String → String) (g iters : String) (rest : List String)
    (hg : g.toNat?.isSome) (hi : iters.toNat?.isSome)
    (hops : (splitOps rest).all (fun o => !o.isEmpty && o.head? != some "par")) :
    handlePar one ("par" :: g :: iters :: rest) = String.intercalate " ; " ((splitOps rest).map one) := by
  simp only [handlePar, handleBatch, SA.par_guard_false hg hi hops, Bool.false_eq_true, if_false]

/-- the two components are instances -/
theorem C06_par_op_pointwise_server (g iters : String) (rest : List String)
    (hg : g.toNat?.isSome) (hi : iters.toNat?.isSome)
    (hops : (splitOps rest).all (fun o => !o.isEmpty && o.head? != some "par")) :
    handleServer ("par" :: g :: iters :: rest) = String.intercalate " ; " ((splitOps rest).map handleServerOne) :=
  C06_par_op_pointwise handleServerOne g iters rest hg hi hops

theorem C06_par_op_pointwise_client (g iters : String) (rest : List String)
    (hg : g.toNat?.isSome) (hi : iters.toNat?.isSome)
    (hops : (splitOps rest).all (fun o => !o.isEmpty && o.head? != some "par")) :
    handleClient ("par" :: g :: iters :: rest) = String.intercalate " ; " ((splitOps rest).map handleClientOne) :=
  C06_par_op_pointwise handleClientOne g iters rest hg hi hops

-- non-vacuity: a batch of an unparsable request line (refused 400) next to an announce with another method
-- ("GET / H", refused 405): two different results, each the one of its own connection
example :
    (serverBatch [⟨⟨false, .nil⟩, fun _ => false, [[32, 13, 10, 13, 10]]⟩, ⟨⟨false, .nil⟩, fun _ => false, [[71, 69, 84, 32, 47, 32, 72, 13, 10, 13, 10]]⟩]).map (·.out)
      = [.refused 400, .refused 405] := by decide

/-- non-vacuity of the op form: two single ops, one separator -/
example : splitOps ["0", "nil", "eof", "-", "a", ";", "1", "ok", "eof", "-", "b"]
    = [["0", "nil", "eof", "-", "a"], ["1", "ok", "eof", "-", "b"]] := by decide

end SA.Handshake

#print axioms SA.Handshake.C06_batch_pointwise
#print axioms SA.Handshake.C06_batch_pointwise_client
#print axioms SA.Handshake.C06_concurrent_no_panic_server
#print axioms SA.Handshake.C06_concurrent_no_panic_client
#print axioms SA.Handshake.C06_concurrent_else_refused
#print axioms SA.Handshake.C06_concurrent_segmentation_independent
#print axioms SA.Handshake.C06_par_op_pointwise
#print axioms SA.Handshake.C06_par_op_pointwise_server
#print axioms SA.Handshake.C06_par_op_pointwise_client
