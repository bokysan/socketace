/-
  C05 — every server KIND applies the full server configuration (RequireClientCert, CA) on its StartTLS path and
  on its TLS-listener path.

  The regenerated fact SA.Gen.c05ServerManagerSites lists, for every `AcceptConnection(conn, M, …)` and every
  `X.GetTlsConfig()` in internal/server, which object M / X is: the `ServerConfig` (whose GetTlsConfig applies
  RequireClientCert) or the embedded base `Config` (same certificate, same CA pool, ClientAuth never set).  The model's
  per-kind manager (`serverCfgFor`) follows the fact; the theorems below tie it to `serverGetTlsConfig`, so that every
  statement proved about `established` holds for every server kind and path.
-/
import SA.Props.C05
import SA.Model.TlsServerKinds
namespace SA.TlsConfig

/-- every path a server kind has is served by a site that hands on the ServerConfig -/
theorem gen_handsServerConfig (k : SrvKind) (p : SrvPath) (h : k.hasPath p = true) :
    handsServerConfig SA.Gen.c05ServerManagerSites SA.Gen.c05DnsUsesSocketAccept k p = true := by
  revert h
  cases k <;> cases p <;> decide

/-- **the manager each server kind hands on is the ServerConfig**: every site of internal/server, and every path a
    kind has (socket / stdio / http / dns: StartTLS and TLS listener; packet: StartTLS) is served by at least one site -/
theorem C05_server_kind_manager_is_server_config :
    (∀ s ∈ SA.Gen.c05ServerManagerSites, s.2.2.2 = "ServerConfig") ∧
    (∀ (k : SrvKind) (p : SrvPath), k.hasPath p = true →
        handsServerConfig SA.Gen.c05ServerManagerSites SA.Gen.c05DnsUsesSocketAccept k p = true) :=
  ⟨by decide, gen_handsServerConfig⟩

/-- **model's per-kind manager = ServerConfig.GetTlsConfig**, for every kind, path and option set -/
theorem C05_every_server_kind_applies_full_config (k : SrvKind) (p : SrvPath) (h : k.hasPath p = true) (so : Opts) :
    serverCfgFor SA.Gen.serverAuthGuardErrNil SA.Gen.c05ServerManagerSites SA.Gen.c05DnsUsesSocketAccept k p so
      = serverGetTlsConfig SA.Gen.serverAuthGuardErrNil so := by
  unfold serverCfgFor
  rw [if_pos (gen_handsServerConfig k p h)]

/-- `require-client-cert` reaches crypto/tls on every kind and path: RequireAndVerifyClientCert + the configured CA pool -/
theorem C05_client_cert_required_every_kind (k : SrvKind) (p : SrvPath) (h : k.hasPath p = true) (so : Opts) (conf : TlsCfg)
    (hs : serverCfgFor SA.Gen.serverAuthGuardErrNil SA.Gen.c05ServerManagerSites SA.Gen.c05DnsUsesSocketAccept k p so = .ok conf) :
    (so.flag = true → conf.clientAuth = .requireAndVerifyClientCert ∧ conf.clientCAs = caPool so) ∧
    (so.flag = false → conf.clientAuth = .noClientCert) := by
  rw [C05_every_server_kind_applies_full_config k p h so] at hs
  exact C05_client_cert_required so conf hs

/-- the session predicate of a server kind is the one all C05 theorems are about -/
theorem C05_establishedOn_eq (X : X509) (k : Kind) (sk : SrvKind) (p : SrvPath) (h : sk.hasPath p = true)
    (hostport r : Name) (co so : Opts) :
    establishedOn X genFacts SA.Gen.c05ServerManagerSites SA.Gen.c05DnsUsesSocketAccept k sk p hostport r co so
      = established X genFacts k hostport r co so := by
  unfold establishedOn established
  have e : genFacts.guardErrNil = SA.Gen.serverAuthGuardErrNil := rfl
  rw [e, C05_every_server_kind_applies_full_config sk p h so]
  cases clientCfgFor genFacts.sites k co <;> cases serverGetTlsConfig SA.Gen.serverAuthGuardErrNil so <;> rfl

/-- **a server of ANY kind that requires client certificates admits only certified clients** — socket (tcp, unix),
    packet (udp/kcp), stdio, websocket and DNS carriers, StartTLS and TLS listener alike, for every x509 oracle,
    every client kind, every option set. -/
theorem C05_auth_sound_server_every_kind (X : X509) (k : Kind) (sk : SrvKind) (p : SrvPath) (h : sk.hasPath p = true)
    (hostport r : Name) (co so : Opts) (hreq : so.flag = true)
    (he : establishedOn X genFacts SA.Gen.c05ServerManagerSites SA.Gen.c05DnsUsesSocketAccept k sk p hostport r co so = true) :
    ∃ ccfg c, clientCfgFor SA.Gen.isvSites k co = .ok ccfg ∧ ccfg.certs.head? = some c ∧
      X.chains (caPool so) c = true ∧ X.validNow c = true := by
  rw [C05_establishedOn_eq X k sk p h] at he
  exact C05_auth_sound_server X k hostport r co so hreq he

/-- the sites with the packet server handing on its embedded base configuration -/
def sitesPacketBase : List MgrSite :=
  SA.Gen.c05ServerManagerSites.map fun s => if s.1 = "packet_server.go" then (s.1, s.2.1, s.2.2.1, "Config") else s

/-- **witness: the base configuration drops the client-certificate requirement.**  A packet server that hands
    `&st.Config` to the handshake, configured with CA A and `requireClientCert`, admits a client without any
    certificate and one certified by the foreign CA B (insecure client: the server's own certificate is not the
    point); with the ServerConfig both are refused and the properly certified client is admitted either way.  The
    other kinds are not affected by the packet server's site. -/
theorem C05_witness_base_config_admits_uncertified :
    let so : Opts := leafSrc "good" { ca := caSrcOf "A", flag := true }
    let none_ : Opts := { ca := caSrcOf "A", flag := true }
    let foreign : Opts := leafSrc "cforeign" { ca := caSrcOf "A", flag := true }
    let good : Opts := leafSrc "cgood" { ca := caSrcOf "A", flag := true }
    let hp : Name := "127.0.0.1:4443".toList
    let on (sites : List MgrSite) (sk : SrvKind) (co : Opts) :=
      establishedOn refX509 genFacts sites true .startTls sk .starttls hp hp co so
    on sitesPacketBase .packet none_ = true ∧ on sitesPacketBase .packet foreign = true ∧
    on sitesPacketBase .packet good = true ∧
    on SA.Gen.c05ServerManagerSites .packet none_ = false ∧ on SA.Gen.c05ServerManagerSites .packet foreign = false ∧
    on SA.Gen.c05ServerManagerSites .packet good = true ∧
    on sitesPacketBase .socket none_ = false ∧ on sitesPacketBase .http foreign = false ∧
    on sitesPacketBase .dns none_ = false ∧ on sitesPacketBase .stdio foreign = false := by
  decide +kernel

-- non-vacuity: an established cell on the packet server with the requirement on; the hypothesis `hasPath` excludes
-- exactly one combination
example : establishedOn refX509 genFacts SA.Gen.c05ServerManagerSites SA.Gen.c05DnsUsesSocketAccept .startTls .packet
    .starttls "127.0.0.1:4443".toList [] (leafSrc "cgood" { ca := caSrcOf "A" })
    (leafSrc "good" { ca := caSrcOf "A", flag := true }) = true := by decide +kernel
example : (SrvKind.packet.hasPath .listener = false) ∧ (SrvKind.dns.hasPath .listener = true) := by decide

end SA.TlsConfig

#print axioms SA.TlsConfig.C05_server_kind_manager_is_server_config
#print axioms SA.TlsConfig.C05_every_server_kind_applies_full_config
#print axioms SA.TlsConfig.C05_client_cert_required_every_kind
#print axioms SA.TlsConfig.C05_establishedOn_eq
#print axioms SA.TlsConfig.C05_auth_sound_server_every_kind
#print axioms SA.TlsConfig.C05_witness_base_config_admits_uncertified
