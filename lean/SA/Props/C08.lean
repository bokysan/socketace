/-
  C08 — DNS codecs are lossless, alphabet-confined and bounded.

  The model is SA.Model.Codec, the lemmas are in SA.Proofs.Codec.  For every codec `enc.FromCode` can return
  (the registry is regenerated from interface.go; an entry without a model does not compile):

    C08_roundtrip_<codec>      decode (encode bs) = some bs     for ALL byte lists bs, including []
    C08_alphabet_safe_<codec>  every output byte is DNS-safe (> 32, ≠ 127, ≠ '.', ≠ '\\')   (text codecs)
    C08_length_bound_<codec>   |encode bs| ≤ ⌈ratio·|bs|⌉ + 8   with ratio = the exact rational value of
                               the codec's Ratio() literal

  `encode_subset_<codec>` (every output byte is a character of the codec's alphabet) is what alphabet_safe
  and C11's pattern coverage both rest on; `length_tight` (ratio·|bs| + 2, every codec) is what the
  length bounds rest on.

  Alphabets, codes, ratios, the Base85 substitution pairs and the three shape facts
  (`b85EncodeReturnsCount`, `b85DecodeBufFactor`, `b128TailGuarded`) are `SA.Gen` values regenerated
  from the Go source on every run; their side conditions are discharged by evaluation in `SA.Proofs.CodecGen` (the
  ratios' in `length_tight` and `length_bound`), so a change of an alphabet character, a ratio literal or one of
  the repaired lines re-opens the obligation.

  Base192 ('Y') violates round trip and alphabet as written: `C08_full` is the statement over the
  whole registry, `C08_partial` is the proved statement over the registry minus Base192, and
  `C08_witness_b192` is the kernel-checked counter-example (also replayed on the real code:
  corpus/C08/base192.ops, finding C08-F1).  Its length bound does hold and is proved.

  Library code (encoding/base32, base64, ascii85, mtraver/base91, luci base128 decode) is modelled at
  the level of its algorithm and tied to the real library by the differential correspondence only.
-/
import SA.Proofs.CodecGen
import SA.Gen.PkgVars
namespace SA.Codec

/-- every registry entry of `enc.FromCode` has a model, the codes are pairwise distinct, and
    `fromCode` finds each codec by its own code -/
theorem C08_registry_modelled :
    registry.length = Gen.registryNames.length ∧ (registry.map Codec.code).Nodup ∧
    ∀ cd ∈ registry, fromCode cd.code = some cd := by decide +kernel

/-! ## Base32 -/

theorem C08_roundtrip_b32 (bs : List Nat) (hb : Bytes bs) : decode .b32 (encode .b32 bs) = some bs :=
  b32_roundtrip gen_cb32 bs hb

theorem C08_alphabet_safe_b32 (bs : List Nat) (_hb : Bytes bs) : ∀ c ∈ encode .b32 bs, dnsSafe c = true :=
  fun c hc => gen_cb32.safe c (encode_subset_b32 bs c hc)

theorem C08_length_exact_b32 (bs : List Nat) (_hb : Bytes bs) :
    (encode .b32 bs).length = (8 * bs.length + 4) / 5 := radixText_length 5 _ bs

/-! ## Base64 / Base64u -/

theorem C08_roundtrip_b64 (bs : List Nat) (hb : Bytes bs) : decode .b64 (encode .b64 bs) = some bs :=
  b64_roundtrip _ gen_cb64 bs hb

theorem C08_alphabet_safe_b64 (bs : List Nat) (_hb : Bytes bs) : ∀ c ∈ encode .b64 bs, dnsSafe c = true :=
  fun c hc => gen_cb64.safe c (encode_subset_b64 bs c hc)

theorem C08_length_exact_b64 (bs : List Nat) (_hb : Bytes bs) :
    (encode .b64 bs).length = (8 * bs.length + 5) / 6 := radixText_length 6 _ bs

theorem C08_roundtrip_b64u (bs : List Nat) (hb : Bytes bs) : decode .b64u (encode .b64u bs) = some bs :=
  b64_roundtrip _ gen_cb64u bs hb

theorem C08_alphabet_safe_b64u (bs : List Nat) (_hb : Bytes bs) : ∀ c ∈ encode .b64u bs, dnsSafe c = true :=
  fun c hc => gen_cb64u.safe c (encode_subset_b64u bs c hc)

theorem C08_length_exact_b64u (bs : List Nat) (_hb : Bytes bs) :
    (encode .b64u bs).length = (8 * bs.length + 5) / 6 := radixText_length 6 _ bs

/-! ## Base128 (the repo's encoder loop, luci's decoder) -/

theorem C08_roundtrip_b128 (bs : List Nat) (hb : Bytes bs) : decode .b128 (encode .b128 bs) = some bs :=
  b128_roundtrip gen_cb128 gen_b128_guard bs hb

theorem C08_alphabet_safe_b128 (bs : List Nat) (hb : Bytes bs) : ∀ c ∈ encode .b128 bs, dnsSafe c = true :=
  fun c hc => gen_cb128.safe c (encode_subset_b128 bs hb c hc)

theorem C08_length_exact_b128 (bs : List Nat) (hb : Bytes bs) :
    (encode .b128 bs).length = (8 * bs.length + 6) / 7 := encode_length_b128 bs hb

/-! ## Base85 (ascii85 with the v/w/x substitution) -/

theorem C08_roundtrip_b85 (bs : List Nat) (hb : Bytes bs) : decode .b85 (encode .b85 bs) = some bs :=
  b85_roundtrip gen_b85_count gen_b85_buf gen_subst85 bs hb

theorem C08_alphabet_safe_b85 (bs : List Nat) (_hb : Bytes bs) : ∀ c ∈ encode .b85 bs, dnsSafe c = true :=
  fun c hc => let ⟨x, hx, e⟩ := encode_subset_b85 bs c hc; e ▸ gen_safe85 x hx

/-- ascii85: five characters per four bytes, k+1 for a final group of k bytes (fewer with `z`) -/
theorem C08_length_tight_b85 (bs : List Nat) (_hb : Bytes bs) :
    (encode .b85 bs).length ≤ (5 * bs.length + 3) / 4 := encode_length_b85 bs

/-! ## Base91 -/

theorem C08_roundtrip_b91 (bs : List Nat) (hb : Bytes bs) : decode .b91 (encode .b91 bs) = some bs :=
  b91_roundtrip gen_cb91 bs hb

theorem C08_alphabet_safe_b91 (bs : List Nat) (hb : Bytes bs) : ∀ c ∈ encode .b91 bs, dnsSafe c = true :=
  fun c hc => gen_cb91.safe c (encode_subset_b91 bs hb c hc)

/-- basE91: two characters per 13 (or 14) bits, at most two for the rest -/
theorem C08_length_tight_b91 (bs : List Nat) (_hb : Bytes bs) :
    13 * (encode .b91 bs).length ≤ 16 * bs.length + 26 := b91Enc_length bs

/-! ## Raw (lossless only) -/

theorem C08_roundtrip_raw (bs : List Nat) (_hb : Bytes bs) : decode .raw (encode .raw bs) = some bs := rfl

/-! ## lengths: one bound for the whole registry, the worded one from it

`C08_length_bound_<codec>` is the property as worded (ratio · n plus a small constant).  The client's size budget
(getUpstreamMtu, property C09) keeps a margin of only 10 bytes, which the constant 8 does not fit into; what the codecs
really emit is tighter (`C08_length_exact_<codec>`, `C08_length_tight_<codec>` above), `length_tight` says so for the
whole registry, Base192 included, and that is what C09's `C09_payload_within_mtu_fits` uses. -/

theorem C08_length_bound_b32 (bs : List Nat) (hb : Bytes bs) :
    (encode .b32 bs).length ≤ ceilMul (Codec.ratio .b32) bs.length + 8 := length_bound .b32 bs hb

theorem C08_length_bound_b64 (bs : List Nat) (hb : Bytes bs) :
    (encode .b64 bs).length ≤ ceilMul (Codec.ratio .b64) bs.length + 8 := length_bound .b64 bs hb

theorem C08_length_bound_b64u (bs : List Nat) (hb : Bytes bs) :
    (encode .b64u bs).length ≤ ceilMul (Codec.ratio .b64u) bs.length + 8 := length_bound .b64u bs hb

theorem C08_length_bound_b128 (bs : List Nat) (hb : Bytes bs) :
    (encode .b128 bs).length ≤ ceilMul (Codec.ratio .b128) bs.length + 8 := length_bound .b128 bs hb

theorem C08_length_bound_b85 (bs : List Nat) (hb : Bytes bs) :
    (encode .b85 bs).length ≤ ceilMul (Codec.ratio .b85) bs.length + 8 := length_bound .b85 bs hb

theorem C08_length_bound_b91 (bs : List Nat) (hb : Bytes bs) :
    (encode .b91 bs).length ≤ ceilMul (Codec.ratio .b91) bs.length + 8 := length_bound .b91 bs hb

theorem C08_length_bound_raw (bs : List Nat) (hb : Bytes bs) :
    (encode .raw bs).length ≤ ceilMul (Codec.ratio .raw) bs.length + 8 := length_bound .raw bs hb

theorem C08_length_bound_b192 (bs : List Nat) (_hb : Bytes bs) :
    (encode .b192 bs).length ≤ ceilMul (Codec.ratio .b192) bs.length + 8 := length_bound .b192 bs _hb

/-! ## the property over the whole registry -/

def RoundTrip (cd : Codec) : Prop := ∀ bs, Bytes bs → decode cd (encode cd bs) = some bs
def AlphabetSafe (cd : Codec) : Prop := ∀ bs, Bytes bs → ∀ c ∈ encode cd bs, dnsSafe c = true
def LengthBound (cd : Codec) : Prop :=
  ∀ bs, Bytes bs → (encode cd bs).length ≤ ceilMul cd.ratio bs.length + 8
/-- Raw is "lossless only"; every other codec is a text codec -/
def isText (cd : Codec) : Bool := cd != .raw

/-- C08 at full strength: every codec `enc.FromCode` can return is lossless, alphabet-confined
    (text codecs) and bounded.  FALSE on the current tree because of Base192 (`C08_witness_b192`). -/
def C08_full : Prop :=
  ∀ cd ∈ registry, RoundTrip cd ∧ (isText cd = true → AlphabetSafe cd) ∧ LengthBound cd

/-- kernel-checked counter-example: Base192 maps the one-byte input "." to the bytes 0x1e 0x80
    (a control character), which decode to the empty string.  Reproduces on the real code:
    `codec Y enc 2e` (corpus/C08/base192.ops). -/
theorem C08_witness_b192 :
    encode .b192 [46] = [30, 128] ∧ decode .b192 (encode .b192 [46]) = some [] ∧
    ¬ RoundTrip .b192 ∧ ¬ AlphabetSafe .b192 ∧ ¬ C08_full := by
  have h1 : encode .b192 [46] = [30, 128] := by decide
  have h2 : decode .b192 (encode .b192 [46]) = some [] := by decide
  have hb : Bytes [46] := by decide
  have hr : ¬ RoundTrip .b192 := fun h => by
    have := h [46] hb
    rw [h2] at this
    exact absurd this (by decide)
  have ha : ¬ AlphabetSafe .b192 := fun h => by
    have := h [46] hb 30 (by rw [h1]; decide)
    exact absurd this (by decide)
  exact ⟨h1, h2, hr, ha, fun hf => hr (hf .b192 (by decide)).1⟩

/-- the proved region: the whole registry except Base192 -/
theorem C08_partial :
    ∀ cd ∈ registry, cd ≠ .b192 →
      RoundTrip cd ∧ (isText cd = true → AlphabetSafe cd) ∧ LengthBound cd := by
  intro cd _ hne
  cases cd with
  | b32 => exact ⟨C08_roundtrip_b32, fun _ => C08_alphabet_safe_b32, C08_length_bound_b32⟩
  | b64 => exact ⟨C08_roundtrip_b64, fun _ => C08_alphabet_safe_b64, C08_length_bound_b64⟩
  | b64u => exact ⟨C08_roundtrip_b64u, fun _ => C08_alphabet_safe_b64u, C08_length_bound_b64u⟩
  | b85 => exact ⟨C08_roundtrip_b85, fun _ => C08_alphabet_safe_b85, C08_length_bound_b85⟩
  | b91 => exact ⟨C08_roundtrip_b91, fun _ => C08_alphabet_safe_b91, C08_length_bound_b91⟩
  | b128 => exact ⟨C08_roundtrip_b128, fun _ => C08_alphabet_safe_b128, C08_length_bound_b128⟩
  | b192 => exact absurd rfl hne
  | raw => exact ⟨C08_roundtrip_raw, fun h => by simp [isText] at h, C08_length_bound_raw⟩

/-! ## independence of results (ops `pair` / `seq` / `par`)

The model's `encode`/`decode` are functions of their argument only, so whatever else was encoded or decoded
in between, every retained encoding decodes to its own input.  Trivial in Lean - it names the hypothesis the
correspondence checks on the real encoders, whose `[]byte` results could share memory with a recycled
buffer, the caller's slice or another goroutine's call: `seqLine` (what the harness must print after keeping
all results alive across all calls) consists of exactly these per-input values. -/
theorem C08_results_independent (cd : Codec) (h : RoundTrip cd) (ins : List (List Nat))
    (hb : ∀ a ∈ ins, Bytes a) :
    (ins.map (encode cd)).map (decode cd) = ins.map some := by
  rw [List.map_map]
  exact List.map_congr_left (fun a ha => h a (hb a ha))

/-- the line the model prints for `pair`/`seq`/`par` is determined input by input -/
theorem C08_seq_line_pointwise (cd : Codec) (ins : List (List Nat)) :
    seqLine cd ins = " ".intercalate (["E"] ++ ins.map (fun a => toHex (encode cd a)) ++ ["D"] ++
      ins.map (fun a => decTok cd (encode cd a))) := by
  simp [seqLine, List.map_map, Function.comp_def]

set_option maxRecDepth 100000 in
example : seqLine .b128 [[1], [2]] = "E 61be 6261 D 01 02" := by decide +kernel

/-! ## non-vacuity: the hypotheses are satisfiable and the functions compute on real inputs -/

set_option maxRecDepth 100000 in
example : Bytes [0, 46, 92, 255] := by decide
set_option maxRecDepth 100000 in
example : registry = [.b32, .b64, .b64u, .b85, .b91, .b128, .b192, .raw] := by decide
set_option maxRecDepth 100000 in
example : encode .b32 [104, 105] = [110, 98, 117, 113] ∧ decode .b32 [110, 98, 117, 113] = some [104, 105] := by decide
set_option maxRecDepth 100000 in
example : encode .b64 [0, 46, 92, 255] ≠ [] ∧ decode .b64 (encode .b64 [0, 46, 92, 255]) = some [0, 46, 92, 255] := by decide +kernel
set_option maxRecDepth 100000 in
example : (encode .b128 [1, 2, 3, 4, 5, 6, 7]).length = 8 ∧ encode .b128 [] = [] := by decide
set_option maxRecDepth 100000 in
example : decode .b128 (encode .b128 [1, 2, 3, 4, 5, 6, 7]) = some [1, 2, 3, 4, 5, 6, 7] := by decide +kernel
set_option maxRecDepth 100000 in
example : encode .b85 [0, 0, 0, 0, 65] = [122, 53, 108] ∧ decode .b85 [122, 53, 108] = some [0, 0, 0, 0, 65] := by decide
set_option maxRecDepth 100000 in
example : decode .b91 (encode .b91 [0, 46, 92, 255, 7]) = some [0, 46, 92, 255, 7] := by decide +kernel
set_option maxRecDepth 100000 in
example : decode .b85 [122, 53] = none ∧ decode .b64 [97] = none ∧ decode .b128 [97] = none := by decide
set_option maxRecDepth 100000 in
example : dnsSafe 46 = false ∧ dnsSafe 92 = false ∧ dnsSafe 32 = false ∧ dnsSafe 127 = false ∧ dnsSafe 97 = true := by decide
set_option maxRecDepth 100000 in
example : ceilMul (Codec.ratio .b91) 1000 = 1231 ∧ ceilMul (Codec.ratio .b192) 15 = 16 := by decide
set_option maxRecDepth 100000 in
/-- the tight bounds are attained: 5 bytes -> 8 Base32 characters, 4 non-zero bytes -> 5 Base85
    characters, 2 bytes of 0xff -> 3 basE91 characters, 7 bytes -> 8 Base128 characters -/
example : (encode .b32 [1, 2, 3, 4, 5]).length = 8 ∧ (encode .b85 [1, 2, 3, 4]).length = 5 ∧
    (encode .b91 [255, 255]).length = 3 ∧ (encode .b128 [1, 2, 3, 4, 5, 6, 7]).length = 8 := by decide

end SA.Codec

#print axioms SA.Codec.C08_registry_modelled
#print axioms SA.Codec.C08_roundtrip_b32
#print axioms SA.Codec.C08_alphabet_safe_b32
#print axioms SA.Codec.C08_length_bound_b32
#print axioms SA.Codec.C08_roundtrip_b64
#print axioms SA.Codec.C08_alphabet_safe_b64
#print axioms SA.Codec.C08_length_bound_b64
#print axioms SA.Codec.C08_roundtrip_b64u
#print axioms SA.Codec.C08_alphabet_safe_b64u
#print axioms SA.Codec.C08_length_bound_b64u
#print axioms SA.Codec.C08_roundtrip_b128
#print axioms SA.Codec.C08_alphabet_safe_b128
#print axioms SA.Codec.C08_length_bound_b128
#print axioms SA.Codec.C08_roundtrip_b85
#print axioms SA.Codec.C08_alphabet_safe_b85
#print axioms SA.Codec.C08_length_bound_b85
#print axioms SA.Codec.C08_roundtrip_b91
#print axioms SA.Codec.C08_alphabet_safe_b91
#print axioms SA.Codec.C08_length_bound_b91
#print axioms SA.Codec.C08_roundtrip_raw
#print axioms SA.Codec.C08_length_bound_raw
#print axioms SA.Codec.C08_length_bound_b192
#print axioms SA.Codec.C08_length_exact_b32
#print axioms SA.Codec.C08_length_exact_b64
#print axioms SA.Codec.C08_length_exact_b64u
#print axioms SA.Codec.C08_length_exact_b128
#print axioms SA.Codec.C08_length_tight_b85
#print axioms SA.Codec.C08_length_tight_b91
#print axioms SA.Codec.C08_witness_b192
#print axioms SA.Codec.C08_partial
#print axioms SA.Codec.C08_results_independent
#print axioms SA.Codec.C08_seq_line_pointwise

namespace SA.PkgState
/-- **no_hidden_process_state**: the models of this property are functions of their arguments and of the objects they are
    handed; the packages they model keep no package-level variables besides these (regenerated inventory: error
    sentinels, tables, compiled patterns, the two session time-outs).  A new package-level variable — a counter, a cache, a
    scratch buffer, a shared map, a registry — would make later calls depend on earlier ones, or concurrent calls on each
    other, outside anything a per-call comparison of model and code can see. -/
theorem C08_no_hidden_process_state :
    Gen.pkgVarNames_enc = ["Base128Encoding", "Base192Encoding", "Base32Encoding", "Base64Encoding", "Base64uEncoding", "Base85Encoding", "Base91Encoding", "RawEncoding", "cb128Invert", "cbInitialized", "iodineBase32Encoding", "iodineBase64Encoding", "iodineBase64uEncoding", "iodineBase91Encoding"] ∧
    Gen.singletonFields_enc = [] := ⟨rfl, rfl⟩
end SA.PkgState

#print axioms SA.PkgState.C08_no_hidden_process_state
