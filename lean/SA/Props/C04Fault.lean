/-
  C04, start-up faults: "an endpoint configured for TLS never completes a plaintext session" when its certificate
  configuration cannot be loaded.  Model SA.Model.CertFault, facts SA.Gen.C04Startup.
-/
import SA.Model.CertFault
namespace SA.Props.C04Fault
open SA.CertFault

/-- For EVERY shape of Startup that lets the load error end Startup (fact class returns / deferred), every listener-call
    list, every client, every outcome of the load and both require-security settings: the cell satisfies the property. -/
theorem C04_fault_safe_of_error_returned (sh : Shape) (clientTls : Bool) (l : Load) (must : Bool)
    (h : sh.handled = true) : safe must (cellWith sh clientTls l must) = true := by
  cases l
  · -- loaded: a TLS endpoint, which serves a TLS client and nobody else
    cases clientTls <;> cases must <;> simp [cellWith, served, safe]
  · -- no certificate at all: no listener, or every handshake fails
    simp only [cellWith]; split <;> simp [safe]
  · -- load error: Startup ends (`h`), no server
    simp [cellWith, h, safe]

/-- the three server kinds that can be configured for TLS; every client spelling of the sweep names one of them -/
def tlsKinds : List String := ["socket", "stdio", "http"]

theorem clientOf_kind {client kind : String} {ctls : Bool} (h : clientOf client = some (kind, ctls)) : kind ∈ tlsKinds := by
  unfold clientOf at h
  split at h <;> cases h <;> decide

theorem gen_handled : ∀ kind ∈ tlsKinds, (shapeOf kind).handled = true := by decide

/-- regenerated: in the Startup of all three server kinds that can be configured for TLS, every GetTlsConfig error ends
    Startup -/
theorem C04_startup_load_errors_end_startup :
    (shapeOf "socket").handled = true ∧ (shapeOf "stdio").handled = true ∧ (shapeOf "http").handled = true :=
  ⟨gen_handled _ (.head _), gen_handled _ (.tail _ (.head _)), gen_handled _ (.tail _ (.tail _ (.head _)))⟩

/-- the code as it is: every driven cell (client spelling x fault x require-security) satisfies the property -/
theorem C04_tls_endpoint_never_plaintext_on_load_fault (client fault : String) (must : Bool) (c : Cell)
    (h : cell client fault must = some c) : safe must c = true := by
  unfold cell at h
  split at h
  · -- a driven cell: the spelling names a server kind, whose Startup handles the load error
    rename_i kind ctls l hc _
    cases h
    exact C04_fault_safe_of_error_returned _ _ _ _ (gen_handled kind (clientOf_kind hc))
  · cases h

/-- kernel-checked counter-example: a Startup that binds first and loses the load error in a variable of the if statement
    (`if cfg, err := GetTlsConfig(); err != nil { err = ... }`) serves a plain client in clear -/
theorem C04_fault_witness_error_lost :
    cellWith ⟨["shadowed"], ["net.Listen", "tls.NewListener"]⟩ false .err false = .est false false true true false ∧
    safe false (cellWith ⟨["shadowed"], ["net.Listen", "tls.NewListener"]⟩ false .err false) = false := by
  decide

/-- non-vacuity: the handled shape exists in the code, cells exist, a served cell exists -/
example : (shapeOf "socket").handled = true := gen_handled _ (.head _)
example : cell "tcp" "nofile" false = some .noserver := by decide
example : cell "tcp+tls" "ok" true = some (.est false true true false true) := by decide

end SA.Props.C04Fault

#print axioms SA.Props.C04Fault.C04_fault_safe_of_error_returned
#print axioms SA.Props.C04Fault.C04_startup_load_errors_end_startup
#print axioms SA.Props.C04Fault.C04_tls_endpoint_never_plaintext_on_load_fault
#print axioms SA.Props.C04Fault.C04_fault_witness_error_lost
