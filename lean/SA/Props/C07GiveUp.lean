/-
  C07, "once the path stops losing everything accepted arrives": the client's poll loop is what retransmits a
  fragment that a Write accepted (short count) and gave up on.  `C07_eventual_delivery_by_poll` (SA.Props.C07) needs
  the loop to be still running when the path heals.  The loop has ONE way of stopping by itself: its give-up rule
  (`errCount > limit ⇒ dc.Close()`).  Here: with the regenerated rule (SA/Gen/C07GiveUp.lean — a repeated failure is
  recognised by `lastErr == err`, identity of the error values) an outage of ANY length, every failing turn returning a
  new error value, never makes the loop close the connection nor back off; and the kernel-checked counter-example for a
  rule that compares what failed: the 7th failing turn of an outage closes the tunnel although fragments are queued.
-/
import SA.Proofs.PollGiveUp
import SA.Model.DnsWrites
namespace SA.PollGiveUp

theorem Rule.gen_identity : Rule.gen.same = 0 := rfl

/-- **a finite outage never makes the client give the tunnel up**: from any state `s` of the loop that is running
    without back-off and remembers no error as new as the outage's (the initial state; the state after any number of
    earlier outages, each followed by a successful turn), an outage of any length `n` and any cause `c`
    (every failure a new error value) leaves the loop running (`closed = false`) with no back-off (`errCount = 0`), so
    the next turn after the path has healed retransmits the oldest unacknowledged fragment
    (`C07_eventual_delivery_by_poll`). -/
theorem C07_outage_never_gives_up (s : LoopSt) (hc : s.closed = false) (he : s.errCount = 0) (i c n : Nat)
    (hl : ∀ l, s.last = some l → l.id < i) :
    (run Rule.gen s (outage i c n)).closed = false ∧ (run Rule.gen s (outage i c n)).errCount = 0 :=
  run_identity_outage Rule.gen Rule.gen_identity s hc he i c n hl

/-- the same for any interleaving: failures of any causes in any order, successes in between, as long as no two
    failing turns return the same error VALUE and the server never answers BadConn -/
theorem C07_loop_never_gives_up (os : List Outcome) (hn : (errIds os).Nodup) (hb : noBadConn os = true) :
    (run Rule.gen {} os).closed = false ∧ (run Rule.gen {} os).errCount = 0 :=
  run_identity_fresh Rule.gen Rule.gen_identity os {} hn hb rfl rfl (by intro l hl; cases hl)

/-- a healed turn resets the bookkeeping, so outages do not add up -/
theorem C07_success_resets (r : Rule) (s : LoopSt) : (turn r s .ok).errCount = 0 ∧ (turn r s .ok).last = none := ⟨rfl, rfl⟩

/-- the rule that recognises a repeated failure by what failed (not today's code):
    `errors.Cause(lastErr).Error() == errors.Cause(err).Error()` in place of `lastErr == err` -/
def byCause : Rule := ⟨1, Gen.c07PollGiveUpLimit, Gen.c07PollGiveUpCloses⟩

/-- **counter-example, kernel-checked**: with comparison by cause an outage of 7 failing turns (35 lost exchanges)
    closes the tunnel — 6 do not — whatever the identities of the error values are; a sentinel returned again and again
    (`same id`) does the same under the identity rule, which is why every failure has to be a new value. -/
theorem C07_witness_giveup_by_cause :
    (run byCause {} (outage 0 1 7)).closed = true ∧ (run byCause {} (outage 0 1 6)).closed = false ∧
    (run Rule.gen {} (List.replicate 7 (.err ⟨0, 1⟩))).closed = true := by decide

/-- a `dnspoll` history with a finite outage (a Write gives up on its fragment, the outage lasts 9 more turns, the path
    heals), kernel-checked on the model of the component: under comparison by cause it ends with the tunnel closed by the
    client itself and fragment 0 still queued; under the regenerated rule the loop is still running, and after the heal
    nothing is queued and the server end has released the accepted byte. -/
theorem C07_witness_outage_line :
    let h : List SA.DnsWrites.PEv := [.L .ql, .ev (.w 1), .P 9, .H]
    let bad := SA.DnsWrites.runP SA.DnsWrites.Facts.gen 1 byCause { st := SA.DnsWrites.start 0 0 [] } h
    let good := SA.DnsWrites.runP SA.DnsWrites.Facts.gen 1 Rule.gen { st := SA.DnsWrites.start 0 0 [] } h
    (bad.closed = true ∧ bad.st.posU = 1 ∧ bad.st.core.sys.a.outq.out.length = 1 ∧ bad.st.core.sys.b.inq.rel = []) ∧
    (good.closed = false ∧ good.hang = false ∧ good.st.posU = 1 ∧ good.st.core.sys.a.outq.out.length = 0 ∧
      good.st.core.sys.b.inq.rel = SA.DnsWrites.streamU 0 1) := by decide +kernel

-- non-vacuity: the hypotheses of the two theorems are met by the outage of `C07_witness_outage_line` (9 turns = 45 lost exchanges)
example := C07_outage_never_gives_up {} rfl rfl 0 1 9 (by intro l hl; cases hl)
example := C07_loop_never_gives_up (outage 0 1 9 ++ [.ok] ++ outage 9 3 20) (by decide) (by decide)
example : (run byCause {} (outage 0 1 9)).closed = true := by decide

end SA.PollGiveUp

#print axioms SA.PollGiveUp.C07_outage_never_gives_up
#print axioms SA.PollGiveUp.C07_loop_never_gives_up
#print axioms SA.PollGiveUp.C07_success_resets
#print axioms SA.PollGiveUp.C07_witness_giveup_by_cause
#print axioms SA.PollGiveUp.C07_witness_outage_line
