/-
  C15 — One stalled peer cannot block other peers (scheduler model of the listener accept loops;
  partial: real time enters only as a deadline in the correspondence).

  The listener loops are the scheduler of SA.Model.Accept with the handshake off the loop, so the property itself is
  C02's theorem read for peers.  Three variations of the scheduler say what else such a loop must not do, each with the
  regenerated fact that puts the code in the good instance and a witness for the bad one: a handshake watchdog may close
  only the connection it was armed for (AcceptTimed; the code arms none, and then the timed model is the untimed one); a
  failed Accept must lead back to Accept (AcceptFail; under that policy the model is again the untimed one on the history
  without the failures); what the DNS library's accept function lets through to the handler cannot end the process
  (SA.DnsFront).
-/
import SA.Proofs.DnsFront
import SA.Gen.C15DnsServer
import SA.Props.C02
import SA.Proofs.AcceptTimed
import SA.Proofs.AcceptFail
import SA.Gen.Locks
import SA.Gen.PkgVars
import SA.Gen.LoopVars
namespace SA.Accept

/-- **no_hol_if_off_loop**: when the session handshake runs off the accept loop, then for every set of
    stalled peers and every history of arrivals, accepts and completed handshakes, a well-behaved
    peer that is waiting is accepted and completes its handshake using only accept steps and its own
    steps — it never needs a stalled peer to move. -/
theorem C15_no_hol_if_off_loop (stalled : Nat → Bool) (hist : List AAct) (p : Nat) (hp : stalled p = false) :
    let s := arun true stalled ainit hist
    p ∈ s.pending →
    ∃ n, p ∈ (arun true stalled s (List.replicate n .accept ++ [.handler p])).finished :=
  C02_independent_if_spawned stalled hist p hp

/-- the current code runs the handshake off the loop on every endpoint kind that has a loop of its
    own (socket, unix, tcp+tls, DNS share SocketServer's loop; UDP/KCP has PacketServer's); HTTP
    endpoints get a goroutine per request from net/http. -/
theorem C15_handshake_off_loop : Gen.socketAcceptSpawned = true ∧ Gen.packetAcceptSpawned = true := ⟨rfl, rfl⟩

/-- **witness_stall**: with the handshake on the loop (the code before the repair) one silent peer
    blocks every later peer forever. -/
theorem C15_witness_stall (acts : List AAct) (hna : ∀ a ∈ acts, ∀ id, a ≠ .arrive id) :
    let stalled : Nat → Bool := fun id => decide (id = 0)
    let s0 := arun false stalled ainit [.arrive 0, .arrive 1, .accept]
    1 ∈ (arun false stalled s0 acts).pending :=
  C02_witness_hol acts hna

/-- **established_stays**: with no handshake watchdog, or with one that closes the connection it was armed for, a
    session that has completed its handshake is still there after every further history of arrivals, accepts,
    handshakes of other peers and watchdog expiries of stalled peers — a stalled peer costs only its own session. -/
theorem C15_established_stays (wd : Watchdog) (hwd : wd ≠ .shared) (stalled : Nat → Bool) (hist acts : List TAct) (p : Nat) :
    let s := trun wd stalled tinit hist
    p ∈ s.base.finished → p ∈ (trun wd stalled s acts).base.finished :=
  trun_finished_mono hwd stalled acts

/-- the code as it is arms no timer and no deadline between Accept() and the end of the session handshake, so its
    accept loops are the instance `Watchdog.none` … -/
theorem C15_accept_path_untimed : Gen.acceptPathTimers = [] ∧ codeWatchdog = some .none := ⟨rfl, rfl⟩

/-- … for which the timed model is exactly the untimed scheduler model the other C15 theorems are about. -/
theorem C15_untimed_is_accept_model (stalled : Nat → Bool) (hist : List TAct) :
    (trun .none stalled tinit hist).base = arun true stalled ainit (baseActs hist) :=
  trun_none stalled tinit hist

/-- **witness_shared_watchdog**: a watchdog whose callback closes "the connection accepted last" (the loop's variable
    instead of a per-connection one): the stalled peer 0 and the well-behaved peer 1 are accepted, 1 completes its
    handshake; when 0's watchdog fires it is 1's established session that is closed, and the stalled peer stays. -/
theorem C15_witness_shared_watchdog :
    let stalled : Nat → Bool := fun id => decide (id = 0)
    let s := trun .shared stalled tinit [.act (.arrive 0), .act (.arrive 1), .act .accept, .act .accept, .act (.handler 1)]
    1 ∈ s.base.finished ∧
    1 ∉ (trun .shared stalled s [.timeout 0]).base.finished ∧
    1 ∈ (trun .shared stalled s [.timeout 0]).closed ∧
    0 ∈ (trun .shared stalled s [.timeout 0]).base.running := by decide

/-- non-vacuity of `C15_established_stays`: with a per-connection watchdog the same history drops the stalled peer and
    keeps the established one -/
example :
    let stalled : Nat → Bool := fun id => decide (id = 0)
    let s := trun .own stalled tinit [.act (.arrive 0), .act (.arrive 1), .act .accept, .act .accept, .act (.handler 1)]
    1 ∈ s.base.finished ∧ 1 ∈ (trun .own stalled s [.timeout 0]).base.finished ∧
    0 ∈ (trun .own stalled s [.timeout 0]).closed := by decide

/-- **served_despite_accept_failures**: when the loop goes back to Accept after every failed Accept (and runs the
    handshake off the loop), then for every set of stalled peers and every history of arrivals, accepts, completed
    handshakes *and failed Accept calls of any class, any number of them, at any moment*, a well-behaved peer that is
    waiting is accepted and completes its handshake using only accept steps and its own steps. -/
theorem C15_served_despite_accept_failures (retry : ErrClass → Bool) (hr : ∀ c, retry c = true) (stalled : Nat → Bool)
    (hist : List FAct) (p : Nat) (hp : stalled p = false) :
    let s := frun retry stalled finit hist
    p ∈ s.base.pending →
    ∃ n, p ∈ (frun retry stalled s (List.replicate n (.act .accept) ++ [.act (.handler p)])).base.finished := by
  intro s hmem
  have hs : s = { base := arun true stalled ainit (fbase hist), alive := true } := frun_retry retry hr stalled finit rfl hist
  rw [hs] at hmem
  obtain ⟨n, hn⟩ := C15_no_hol_if_off_loop stalled (fbase hist) p hp hmem
  refine ⟨n, ?_⟩
  have e : List.replicate n (FAct.act .accept) ++ [.act (.handler p)] =
      (List.replicate n AAct.accept ++ [AAct.handler p]).map .act := by simp
  rw [hs, frun_retry retry hr stalled _ rfl, e, fbase_map_act]
  exact hn

/-- the code as it is goes back to Accept whatever failed: in both accept loops (SocketServer: tcp, unix, tcp+tls, DNS
    endpoints; PacketServer: UDP/KCP endpoints) nothing in the handling of Accept's error leaves the loop or waits, and
    `if err != nil { … }` ends with `continue` (regenerated) — the policy the theorem above is about. -/
theorem C15_accept_errors_retried :
    Gen.socketAcceptErrorExits = [] ∧ Gen.packetAcceptErrorExits = [] ∧
    Gen.socketAcceptErrorEnds = "continue" ∧ Gen.packetAcceptErrorEnds = "continue" ∧
    (codeRetry "tcp").isSome = true ∧ (codeRetry "udp").isSome = true := ⟨rfl, rfl, rfl, rfl, rfl, rfl⟩

/-- **witness_accept_failure_ends_loop**: a loop that goes back to Accept only after an accept deadline and leaves
    after any other failure: the silent peer 0 is accepted, peer 1 arrives at a moment at which Accept fails with a
    temporary error (out of descriptors).  The listener is open, the failure is over — and peer 1, like every peer after
    it, waits for ever, whatever happens next. -/
theorem C15_witness_accept_failure_ends_loop (acts : List FAct) :
    let stalled : Nat → Bool := fun id => decide (id = 0)
    let s0 := frun retryTimeoutOnly stalled finit [.act (.arrive 0), .act .accept, .act (.arrive 1), .fail .temporary]
    1 ∈ (frun retryTimeoutOnly stalled s0 acts).base.pending :=
  (frun_dead retryTimeoutOnly _ _ (by decide) 1 (by decide) acts).1

/-- non-vacuity of `C15_served_despite_accept_failures`, and the other half of the witness: the same history under the
    code's policy serves peer 1; an accept deadline does not end the witness's loop either -/
example :
    let stalled : Nat → Bool := fun id => decide (id = 0)
    let hist : List FAct := [.act (.arrive 0), .act .accept, .act (.arrive 1), .fail .temporary, .fail .other, .fail .timeout]
    1 ∈ (frun retryAll stalled finit hist).base.pending ∧
    1 ∈ (frun retryAll stalled finit (hist ++ [.act .accept, .act (.handler 1)])).base.finished ∧
    1 ∈ (frun retryTimeoutOnly stalled finit [.act (.arrive 0), .act .accept, .act (.arrive 1), .fail .timeout, .act .accept, .act (.handler 1)]).base.finished := by decide

/-- **locks_not_reentrant**: no function of the repository, while holding one of its mutexes, reaches code that locks
    the same mutex again (regenerated).  For this property: the DNS endpoint's once-a-minute retirement of silent
    sessions runs under the session table's lock; if it blocked there, every later client's version request would
    wait for that lock for ever — one silent peer would stop all later peers. -/
theorem C15_locks_not_reentrant : Gen.reentrantLockPaths = [] := rfl

end SA.Accept

#print axioms SA.Accept.C15_established_stays
#print axioms SA.Accept.C15_accept_path_untimed
#print axioms SA.Accept.C15_untimed_is_accept_model
#print axioms SA.Accept.C15_witness_shared_watchdog
#print axioms SA.Accept.C15_no_hol_if_off_loop
#print axioms SA.Accept.C15_handshake_off_loop
#print axioms SA.Accept.C15_witness_stall
#print axioms SA.Accept.C15_locks_not_reentrant
#print axioms SA.Accept.C15_served_despite_accept_failures
#print axioms SA.Accept.C15_accept_errors_retried
#print axioms SA.Accept.C15_witness_accept_failure_ends_loop

namespace SA.PkgState
/-- **no_hidden_process_state**: the models of this property are functions of their arguments and of the objects they are
    handed; the packages they model keep no package-level variables besides these (regenerated inventory: error
    sentinels, tables, compiled patterns, the two session time-outs).  A new package-level variable — a counter, a cache, a
    scratch buffer, a shared map, a registry — would make later calls depend on earlier ones, or concurrent calls on each
    other, outside anything a per-call comparison of model and code can see. -/
theorem C15_no_hidden_process_state :
    Gen.pkgVarNames_server = ["ChannelRegex"] ∧
    Gen.pkgVarNames_dns = ["ConnectionTimeout", "ErrConnectionFailed", "ErrHandshakeNotCompleted", "OldConnectionTimeout"] := ⟨rfl, rfl⟩

/-- **per_item_handlers**: the module's language version is go 1.14 — a loop has one variable for all its iterations.
    No function literal inside a loop body captures a variable that the loop (re)assigns on every iteration, so the
    handler, callback or goroutine set up for one channel / endpoint / connection is not silently bound to a later
    one (regenerated inventory).  The three entries are addresses of a loop variable that are consumed before the next
    iteration: `EndpointHandler(&endpoint, …)` reads one field synchronously, and the two command look-ups leave their
    loop at once (`cmd = &c; break` / `return`). -/
theorem C15_per_item_handlers :
    Gen.goDirective = "1.14" ∧
    Gen.loopVarCaptures = ["internal/server/http_server.go Startup: address of loop variable endpoint taken", "internal/streams/dns/commands/serializer.go DetectCommandType: address of loop variable v taken", "internal/streams/dns/dns_server_connection.go onMessage: address of loop variable c taken"] := ⟨rfl, rfl⟩
end SA.PkgState

#print axioms SA.PkgState.C15_no_hidden_process_state
#print axioms SA.PkgState.C15_per_item_handlers

namespace SA.DnsFront
/-- **only_single_question_queries_reach_the_handler**: with the library's default accept function every message that
    reaches the handler is recomposed without a fault, whatever its names are — for all messages. -/
theorem C15_accepted_messages_compose (m : Msg) (h : acceptedByDefault m = true) : (composeRequest m).isSome = true :=
  accepted_compose m h

/-- the code keeps the default: the only fields of the library's Server object it sets are the address, the network, the
    TLS configuration and the handler table (regenerated) — no accept function of its own -/
theorem C15_dns_server_keeps_default_filter :
    Gen.dnsServerFieldsSet = ["Addr", "Handler", "Net", "TLSConfig"] := rfl

/-- witness: an accept function without the one-question rule lets through messages that kill the process (two root
    questions; no question at all) -/
theorem C15_witness_multi_question :
    acceptedAnyCount ⟨true, [[46], [46]]⟩ = true ∧ composeRequest ⟨true, [[46], [46]]⟩ = none ∧
    acceptedAnyCount ⟨true, []⟩ = true ∧ composeRequest ⟨true, []⟩ = none ∧
    acceptedByDefault ⟨true, [[46], [46]]⟩ = false ∧ acceptedByDefault ⟨true, []⟩ = false := by decide
end SA.DnsFront

#print axioms SA.DnsFront.C15_accepted_messages_compose
#print axioms SA.DnsFront.C15_dns_server_keeps_default_filter
#print axioms SA.DnsFront.C15_witness_multi_question
