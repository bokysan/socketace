/-
  C04, whatever the peer answers to the dial (model SA.Model.SecFront, harness go/harness/c04_front.go): the `secure`
  flag the handshake is given describes the carrier that is in use at the moment of the handshake.
-/
import SA.Model.SecFront
import SA.Props.C04Spell
namespace SA.Security
open SA.Handshake

/-- **the flag is computed for the carrier in use** (regenerated from every upstream Connect): a kind whose `secure`
    argument can be anything but the literal `false` opens its carrier at most once on every path to the handshake —
    no redirect followed, no fall-back dial, no retry loop between computing the flag and NewClientConnection — and
    does not assign the flag after the dial.  (The dns kind retries name servers in a loop; it always passes `false`.) -/
theorem C04_flag_computed_for_the_carrier_in_use :
    Gen.c04DialPaths.map (fun r => r.1) = Gen.c04SecureArgs.map (fun r => r.1) ∧
    ∀ r ∈ Gen.c04DialPaths, secureArgClass r.1 = "false" ∨ (r.2.1 ≤ 1 ∧ r.2.2 = false) := by
  decide +kernel

/-- … in the form the model uses: no kind that may say "secure" re-dials -/
theorem C04_no_redial : ∀ r ∈ Gen.c04DialPaths, secureArgClass r.1 = "false" ∨ redials r.1 = false := by
  decide +kernel

/-- the two kinds the front-end sweep drives do not re-dial -/
theorem redials_http : redials "http" = false := by decide
theorem redials_socket : redials "socket" = false := by decide

theorem redials_frontKind {ctor : String} {s : Schemes.Str} (h : frontKind ctor s = true) :
    redials (kindOfCtor ctor) = false := by
  simp only [frontKind, Bool.or_eq_true, Bool.and_eq_true, beq_iff_eq] at h
  rcases h with rfl | ⟨rfl, _⟩
  · exact redials_http
  · exact redials_socket

/-- **the server's `secure` flag comes from its own listener** (regenerated from every call of AcceptConnection /
    NewServerConnection under internal/, `Gen.c04ServerSecureArgs`, and from every write of a `secure` field in those
    packages, `Gen.c04ServerSecureWrites`): each of the server kinds socket, http, packet, stdio and AcceptConnection
    itself has a call site; at every call site the `secure` argument is the literal `false`, or the receiver's `secure`
    field / a local of `Startup`, or AcceptConnection's own parameter handed on untouched; every write of such a field is
    `<receiver>.secure = true` directly under a test of the endpoint's OWN configured scheme, or `= false`, inside a
    `Startup` method.  No term derived from the request (a header, `r.TLS`, `r.URL`, a subprotocol), from the peer's
    handshake messages or from a password reaches the argument.  Consequence (last clause): a server kind whose own
    listener is not TLS never tells the handshake that the carrier is secure. -/
theorem C04_server_secure_flag_from_own_listener :
    (∀ k ∈ serverKinds, ∃ r ∈ Gen.c04ServerSecureArgs, r.1 = k) ∧
    (∀ r ∈ Gen.c04ServerSecureArgs,
      r.2.2.2.2 = "false" ∨ r.2.2.2.2 = "ownSchemeField" ∨ r.2.2.2.2 = "ownSchemeVar" ∨
        (r.2.2.2.2 = "paramPassThrough" ∧ r.1 = "accept")) ∧
    (∀ w ∈ Gen.c04ServerSecureWrites, w.2.2.2 = "ok") ∧
    (∀ r ∈ Gen.c04ServerSecureArgs, srvFlag r.1 false = false) := by
  decide +kernel

/-- the websocket server on its plain listener (the server of the `inject` cells) -/
theorem srvFlag_http_plain : srvFlag "http" false = false := by decide +kernel

/-- a cell on concrete arguments: unfold the cell functions down to `honestPair`, put `honestOutcome` in its place so
    that the two parsers do not run, and let the kernel compute the rest.  (`unfold` and one `rw` with the equation of
    functions: `simp only` with the same names and `honestPair_eq` costs three times as much.) -/
local macro "cell_decide" : tactic =>
  `(tactic| (
      simp only [cellFront, cellFrontWith]
      unfold cellFrontWith2 cellSpell cellSpellAcc cellCore2 cellCoreSrv
      rw [honestPair_fun]
      decide +kernel))

/-- **a rewritten opening request changes nothing**: for every spelling of the regenerated upstream switch behind a
    front-end that relays to the real plain server and rewrites the client's opening HTTP request (any header, the
    request URL, subprotocol names - the model does not even look at what was rewritten, because by
    `C04_server_secure_flag_from_own_listener` nothing the request says reaches the `secure` argument), server with /
    without certificate, require-security, every client certificate configuration: the five clauses hold, and the
    server's own view is right - it advertises StartTLS exactly when it owns a certificate (its carrier is plain). -/
theorem C04_inject_grid_never_plaintext :
    ∀ k ∈ Schemes.keysOf (Schemes.tableOf .upstream), ∀ (stls scert must insecure ca : Bool),
      cellSafe2 (spellTls k.toList) false scert must (cellFront k.toList .inject stls scert must insecure ca) = true ∧
      (srvAdvert k.toList scert = none ∨ srvAdvert k.toList scert = some scert) := by
  intro k hk stls scert must insecure ca
  unfold cellFront cellFrontWith srvAdvert srvAdvertWith
  cases heq : Schemes.lookup (Schemes.tableOf .upstream) k.toList with
  | none => exact ⟨by unfold cellFrontWith2; rw [heq]; rfl, .inl rfl⟩      -- `.badscheme`: no session, no server
  | some ctor =>
    dsimp only
    rw [srvFlag_http_plain]
    constructor
    · -- no session (no server, refused), or the handshake cell of a plain dial to the plain server
      rcases cellFrontWith2_inject_cases heq redials srvFlag stls scert must insecure ca with
        e | e | ⟨rfl, hf, e⟩ <;> rw [e]
      · rfl
      · rfl
      · -- the server's own flag is `false` (`srvFlag_http_plain`), as its carrier is: the cell of the spelling sweep
        rw [srvFlag_http_plain, cellCoreSrv_eq]
        exact spelling_core_safe hk heq hf false scert must _
    · split
      · exact .inl rfl                        -- not a plain websocket dial: the cell reaches no server
      · cases scert <;> exact .inr rfl        -- `supportTls` of a plain carrier: a certificate or none

/-- **why the fact matters (kernel-checked counter-example)**: a websocket server that takes the word of the request
    for "the carrier is encrypted" (flag true on its plain listener) does not advertise StartTLS although it owns a
    certificate, and the honest client completes a plaintext session, payload in clear - clause (2) fails; the relay
    reads `srv=nostls`.  This is the cell the harness reproduces on such code (`ws inj:xfp 0 1 0 …`). -/
theorem C04_inject_claimed_secure_witness :
    cellFrontWith2 redials (fun _ _ => true) "ws".toList .inject false true false true false
      = .est .none false true true (some false) ∧
    cellSafe2 false false true false
      (cellFrontWith2 redials (fun _ _ => true) "ws".toList .inject false true false true false) = false ∧
    srvAdvertWith (fun _ _ => true) "ws".toList true = some false ∧
    srvFlagOf [("http", "http_server.go", "HttpServer.EndpointHandler", "ws.secure || r.Header.Get(\"X-Forwarded-Proto\") == \"https\"", "other")]
      "http" false = true := by
  unfold cellFrontWith2 cellSpell cellSpellAcc cellCore2 cellCoreSrv
  rw [honestPair_fun]
  decide +kernel

/-- **the front-end sweep is safe**: for every spelling of the regenerated upstream switch, every answer of the
    front-end (relay, 3xx to a plain or to a TLS location, redirect loop, 200 / 404, TLS refused), server plain / TLS,
    with / without certificate, require-security and every client certificate configuration, the five clauses of the
    monitor hold on the carrier that carries the session: (1) require-security => secure, TLS-protected, echo, payload
    not in clear; (2) StartTLS offered on an unencrypted carrier => tls + secure; (3) secure => not in clear;
    (4) secure "underlying" => a TLS record first on the wire; (5) the spelling says TLS => a TLS record first on the
    wire.  Proved from `redials_frontKind` (the two kinds the sweep drives open one carrier, read off the table
    `C04_flag_computed_for_the_carrier_in_use` speaks of: every answer but a relay is no session) and
    `C04_spelling_grid_never_plaintext`. -/
theorem C04_front_grid_never_plaintext :
    ∀ k ∈ Schemes.keysOf (Schemes.tableOf .upstream), ∀ (f : Front) (stls scert must insecure ca : Bool),
      cellSafe2 (spellTls k.toList) (finalStls f stls) scert must (cellFront k.toList f stls scert must insecure ca) = true := by
  intro k hk f stls scert must insecure ca
  by_cases hinj : f = .inject
  · subst hinj
    exact (C04_inject_grid_never_plaintext k hk stls scert must insecure ca).1
  unfold cellFront cellFrontWith cellFrontWith2
  cases heq : Schemes.lookup (Schemes.tableOf .upstream) k.toList with
  | none => rfl       -- `.badscheme`
  | some ctor =>
  dsimp only
  cases hfk : frontKind ctor k.toList
  · rfl
  -- no second dial: every answer of the front-end but a relay ends in no session
  have nr := redials_frontKind hfk
  cases f <;> simp only [nr, finalStls, Bool.not_true, Bool.false_eq_true, if_false]
  case inject => exact absurd rfl hinj
  case pass => exact C04_spelling_grid_never_plaintext k hk stls scert must insecure ca
  case tlsdrop =>
    split
    · rfl
    split
    · exact C04_spelling_grid_never_plaintext k hk false scert must insecure ca
    · rfl
  -- every branch of a redirect that is not followed is `.refused`
  case redirect t => simp only [ite_self]; rfl
  -- `loop`, `status`, `srvpw`: no session in the model whatever the kind does (`.refused`, `.noserver`), and `cellSafe2`
  -- of a cell without a session computes to `true`
  all_goals rfl

/-- **why the fact matters (kernel-checked counter-example)**: a websocket Connect that follows the redirect with the
    flag it computed for the configured URL turns `wss://` + require-security + a front-end answering
    `301 Location: ws://…` into a session the client reports secure ("underlying") on a carrier dialled in plain text,
    payload in clear — clauses (1), (3), (4), (5) all fail.  This is the cell the harness reproduces on such code. -/
theorem C04_front_redial_witness :
    cellFrontWith (fun _ => true) "wss".toList (.redirect false) false true true false true
      = .est .underlying true true true (some false) ∧
    cellSafe2 true false true true
      (cellFrontWith (fun _ => true) "wss".toList (.redirect false) false true true false true) = false := by cell_decide

/-- the same for a fall-back to plain text after a TLS failure (websocket and tcp socket upstreams) -/
theorem C04_front_fallback_witness :
    cellSafe2 true false true true
      (cellFrontWith (fun _ => true) "tcp+tls".toList .tlsdrop false true true false true) = false ∧
    cellSafe2 true false false true
      (cellFrontWith (fun _ => true) "https".toList .tlsdrop false false true true false) = false := by cell_decide

example : cellFront "wss".toList (.redirect false) false true true false true = .refused := by decide +kernel
example : cellFront "ws".toList .tlsdrop false true true false true = .est .tls true true false (some false) := by cell_decide
example : cellFront "https".toList .pass true true true false true = .est .underlying true true false (some true) := by cell_decide
example : cellFront "udp".toList .pass false false false true false = .noserver := by decide +kernel
example : redialsOf [("http", 3, false)] "http" = true := by decide
example : cellFront "ws".toList .inject false true false true false = .est .tls true true false (some false) := by cell_decide
example : cellFront "http".toList .inject false true true false false = .refused := by cell_decide
example : srvAdvert "ws".toList true = some true ∧ srvAdvert "ws".toList false = some false := by decide +kernel
example : cellFront "wss".toList .inject false true true false true = .noserver := by decide +kernel
example : srvFlagOf [] "http" false = true := by decide
example : redialsOf [("http", 1, true)] "http" = true := by decide

end SA.Security

#print axioms SA.Security.C04_flag_computed_for_the_carrier_in_use
#print axioms SA.Security.C04_no_redial
#print axioms SA.Security.C04_server_secure_flag_from_own_listener
#print axioms SA.Security.C04_inject_grid_never_plaintext
#print axioms SA.Security.C04_inject_claimed_secure_witness
#print axioms SA.Security.C04_front_grid_never_plaintext
#print axioms SA.Security.C04_front_redial_witness
#print axioms SA.Security.C04_front_fallback_witness
