/-
  C11, continued — what the handshake's probes do and do not exercise (finite-table facts).

  `C11_success_sound_partial` says: success ⇒ every parameter was justified by a probe that passed.
  `C11_full` would need: a probe that passed ⇒ every payload is carried.  The first missing link is
  about *tables*: a pattern probe shows that the bytes **of the patterns** survive the path upstream; a
  download check shows that the characters **of the encoded check string** survive downstream.  Whether
  those are all the characters the selected codec can ever emit is decided here, over the tables
  regenerated from the source (SA.Gen.C11Pat: `TestPatterns()`, `DownloadCodecCheck`; SA.Gen.C08: the
  alphabets) and the C08 codec models:

  * upstream: Base32, Base91 and Base128 patterns contain every character their encoder can emit
    (`C11_patterns_cover_…`: for ALL inputs, every output byte occurs in a pattern — C08's alphabet
    confinement, and no character of the alphabet is unprobed); Base64 / Base64u patterns lack the digits
    3–8, Base85's lacks `z` (the four-zero-bytes shorthand) — `C11_patterns_miss_…` with an input whose
    encoding contains the unprobed character;
  * request header (command letter, cache characters a–z0–9, base-36 user id): covered by the Base91
    and Base128 patterns only (`C11_header_alphabet_coverage`);
  * downstream: no codec's alphabet is covered by the download check (`C11_downcheck_misses`): 5 of 32
    Base32 characters … 87 of 128 Base128 characters never occur in the encoded check string, and with
    Raw 220 of 256 byte values are not exercised, among them `"` `;` `\` `.` (`C11_downcheck_raw`).

  So the gap between `C11_success_sound_partial` and `C11_full` is exactly: a path whose character map
  is the identity on the probed characters and not on one of the characters listed here passes the
  handshake and corrupts data (`C11_gap_explicit`).  Such paths are outside the simulated family of the
  `dnshs` component (its maps are case folding / 7-bit stripping, which the probes do detect).
-/
import SA.Proofs.CodecGen
import SA.Model.ProbeTables
import SA.Gen.C11
namespace SA.ProbeTables
open SA.Codec

/-- the regenerated pattern table has one entry per codec of the C11 numbering, with the pattern counts
    the handshake model uses -/
theorem C11_pattern_table_shape :
    SA.Gen.C11Pat.testPatterns.map List.length = SA.Gen.C11.patternCount ∧
    downloadCheck.length = 48 := by decide

/-- `encode cd bs` only emits bytes that occur in a pattern of codec number `i` -/
def PatternsCover (cd : Codec) (i : Nat) : Prop :=
  ∀ bs, Bytes bs → ∀ c ∈ encode cd bs, c ∈ patternBytes i

/-- alphabet characters that occur in no pattern -/
def unprobed (alphabet : List Nat) (i : Nat) : List Nat :=
  alphabet.filter (fun c => !(patternBytes i).contains c)

/-- everything ascii85 + the repo's substitution can emit: 33..117 substituted, and `z` -/
def b85Alphabet : List Nat :=
  (List.range 85).map (fun k => substOf Gen.b85EncSubst (k + 33)) ++ [122]

/-- the sweeps below test membership in a table through its bit mask (`SA.Codec.mask`) -/
theorem unprobed_eq (alphabet : List Nat) :
    unprobed alphabet = fun i => alphabet.filter (fun c => !(mask (patternBytes i)).testBit c) := by
  funext i; simp only [unprobed, contains_eq_testBit]

/-! ### upstream: which pattern sets cover the encoder's whole output alphabet -/

theorem gen_unprobed_b32 : unprobed Gen.cb32 0 = [] := by rw [unprobed_eq]; decide +kernel
theorem gen_unprobed_b91 : unprobed Gen.cb91 4 = [] := by rw [unprobed_eq]; decide +kernel
theorem gen_unprobed_b128 : unprobed Gen.cb128 5 = [] := by rw [unprobed_eq]; decide +kernel
theorem gen_unprobed_b64 : unprobed Gen.cb64 1 = [51, 52, 53, 54, 55, 56] := by rw [unprobed_eq]; decide +kernel
theorem gen_unprobed_b64u : unprobed Gen.cb64u 2 = [51, 52, 53, 54, 55, 56] := by rw [unprobed_eq]; decide +kernel
theorem gen_unprobed_b85 : unprobed b85Alphabet 3 = [122] := by rw [unprobed_eq]; decide +kernel

/-- the complete list of unprobed alphabet characters per codec: none for Base32 / Base91 / Base128,
    the digits `3`..`8` for Base64 and Base64u, `z` for Base85 -/
theorem C11_unprobed_characters :
    unprobed Gen.cb32 0 = [] ∧ unprobed Gen.cb91 4 = [] ∧ unprobed Gen.cb128 5 = [] ∧
    unprobed Gen.cb64 1 = [51, 52, 53, 54, 55, 56] ∧
    unprobed Gen.cb64u 2 = [51, 52, 53, 54, 55, 56] ∧
    unprobed b85Alphabet 3 = [122] :=
  ⟨gen_unprobed_b32, gen_unprobed_b91, gen_unprobed_b128, gen_unprobed_b64, gen_unprobed_b64u, gen_unprobed_b85⟩

/-- no unprobed character in the alphabet, and the encoder stays inside the alphabet (C08) -/
theorem cover_of_unprobed_nil {cd : Codec} {i : Nat} {alphabet : List Nat} (h : unprobed alphabet i = [])
    (hsub : ∀ bs, Bytes bs → ∀ c ∈ encode cd bs, c ∈ alphabet) : PatternsCover cd i := by
  intro bs hb c hc
  simpa using List.filter_eq_nil_iff.1 h c (hsub bs hb c hc)

theorem C11_patterns_cover_b32 : PatternsCover .b32 0 :=
  cover_of_unprobed_nil gen_unprobed_b32 fun bs _ => encode_subset_b32 bs

theorem C11_patterns_cover_b91 : PatternsCover .b91 4 :=
  cover_of_unprobed_nil gen_unprobed_b91 encode_subset_b91

theorem C11_patterns_cover_b128 : PatternsCover .b128 5 :=
  cover_of_unprobed_nil gen_unprobed_b128 encode_subset_b128

/-- an input whose encoding contains a character that occurs in no pattern; the hypothesis is four finite facts, for one
    evaluation -/
theorem miss_of_witness {cd : Codec} {i : Nat} {out : List Nat} (bs : List Nat) (c : Nat) :
    Bytes bs ∧ encode cd bs = out ∧ c ∈ out ∧ c ∉ patternBytes i →
      encode cd bs = out ∧ c ∉ patternBytes i ∧ ¬ PatternsCover cd i :=
  fun ⟨hb, he, hc, hn⟩ => ⟨he, hn, fun hcov => hn (hcov bs hb c (he ▸ hc))⟩

/-- Base64: the byte 0xE0 encodes to `3a`; `3` occurs in no Base64 pattern -/
theorem C11_patterns_miss_b64 :
    encode .b64 [224] = [51, 97] ∧ 51 ∉ patternBytes 1 ∧ ¬ PatternsCover .b64 1 :=
  miss_of_witness [224] 51 (by decide)

theorem C11_patterns_miss_b64u :
    encode .b64u [224] = [51, 97] ∧ 51 ∉ patternBytes 2 ∧ ¬ PatternsCover .b64u 2 :=
  miss_of_witness [224] 51 (by decide)

/-- Base85: four zero bytes encode to the single character `z`, which occurs in no Base85 pattern -/
theorem C11_patterns_miss_b85 :
    encode .b85 [0, 0, 0, 0] = [122] ∧ 122 ∉ patternBytes 3 ∧ ¬ PatternsCover .b85 3 :=
  miss_of_witness [0, 0, 0, 0] 122 (by decide)

/-- the characters of a request header: command letter / cache characters / base-36 user id -/
def headerAlphabet : List Nat := (List.range 26).map (· + 97) ++ (List.range 10).map (· + 48)

/-- header characters in no pattern, per codec 0..5: only the Base91 and Base128 pattern sets contain
    all of a–z0–9 (Base32's lacks 6–9, Base64/64u's 3–8, Base85's `y` and `z`) -/
theorem C11_header_alphabet_coverage :
    (List.range 6).map (unprobed headerAlphabet) =
      [[54, 55, 56, 57], [51, 52, 53, 54, 55, 56], [51, 52, 53, 54, 55, 56], [121, 122], [], []] := by
  rw [unprobed_eq]; decide +kernel

/-! ### downstream: what the download check exercises -/

/-- the characters the download check puts on the wire with downstream codec `cd` -/
def downExercised (cd : Codec) : List Nat := encode cd downloadCheck

def downMissing (cd : Codec) (alphabet : List Nat) : List Nat :=
  alphabet.filter (fun c => !(downExercised cd).contains c)

/-- no codec's alphabet is covered by the encoded check string: the number of alphabet characters that
    never occur in it, and for Base32 the characters themselves (`c o p u x`) -/
theorem C11_downcheck_misses :
    downMissing .b32 Gen.cb32 = [99, 111, 112, 117, 120] ∧
    (downMissing .b64 Gen.cb64).length = 27 ∧
    (downMissing .b64u Gen.cb64u).length = 27 ∧
    (downMissing .b85 b85Alphabet).length = 43 ∧
    (downMissing .b91 Gen.cb91).length = 52 ∧
    (downMissing .b128 Gen.cb128).length = 87 := by simp only [downMissing, contains_eq_testBit]; decide +kernel

/-- Raw (TXT): the check string has 36 distinct byte values; 220 byte values are never exercised, among
    them the ones DNS presentation format treats specially: `"` (34), `;` (59), `\` (92), `.` (46) -/
theorem C11_downcheck_raw :
    downExercised .raw = downloadCheck ∧
    ((List.range 256).filter (fun c => !downloadCheck.contains c)).length = 220 ∧
    34 ∉ downloadCheck ∧ 59 ∉ downloadCheck ∧ 92 ∉ downloadCheck ∧ 46 ∉ downloadCheck := by
  simp only [contains_eq_testBit]; decide +kernel

/-! ### the gap, explicit -/

/-- a pointwise character map of the path -/
abbrev CharMap := Nat → Nat

/-- the map leaves every probed character alone -/
def PassesProbes (f : CharMap) (probed : List Nat) : Prop := ∀ c ∈ probed, f c = c

/-- the map that turns `3` into `4` and nothing else -/
def swap34 : CharMap := fun c => if c = 51 then 52 else c

/-- **the missing link, as a counter-example at table level.**  A path that maps `3` to `4` returns every
    Base64 pattern unchanged, yet changes the encoding of the one-byte payload 0xE0, which then decodes
    to a different payload (0xE4): "all patterns came back unchanged" does not imply "every payload is
    carried" for Base64.  For Base32, Base91 and Base128 the same step *is* sound for pointwise maps
    (`C11_patterns_sound_pointwise`). -/
theorem C11_gap_explicit :
    PassesProbes swap34 (patternBytes 1) ∧
    (encode .b64 [224]).map swap34 ≠ encode .b64 [224] ∧
    decode .b64 ((encode .b64 [224]).map swap34) = some [228] := by
  refine ⟨?_, by decide, by decide⟩
  intro c hc
  have : c ≠ 51 := fun e => C11_patterns_miss_b64.2.1 (e ▸ hc)
  simp [swap34, this]

/-- for the codecs whose patterns cover the alphabet, a pointwise path map that returns every pattern
    unchanged delivers every encoded payload unchanged -/
theorem C11_patterns_sound_pointwise (cd : Codec) (i : Nat) (hcov : PatternsCover cd i)
    (f : CharMap) (hp : PassesProbes f (patternBytes i)) (bs : List Nat) (hb : Bytes bs) :
    (encode cd bs).map f = encode cd bs := by
  have : ∀ c ∈ encode cd bs, f c = c := fun c hc => hp c (hcov bs hb c hc)
  calc (encode cd bs).map f = (encode cd bs).map id := List.map_congr_left this
    _ = encode cd bs := List.map_id _

set_option maxRecDepth 100000 in
example : patternBytes 0 ≠ [] ∧ (patterns 5).length = 5 ∧ patterns 6 = [] := by decide
set_option maxRecDepth 100000 in
example : Bytes [224] ∧ 97 ∈ encode .b32 [0] ∧ 97 ∈ patternBytes 0 := by decide
/-- the pointwise soundness has instances: the identity passes every probe -/
example : PassesProbes id (patternBytes 5) := fun _ _ => rfl
example (bs : List Nat) (hb : Bytes bs) : (encode .b128 bs).map id = encode .b128 bs :=
  C11_patterns_sound_pointwise .b128 5 C11_patterns_cover_b128 id (fun _ _ => rfl) bs hb

end SA.ProbeTables

#print axioms SA.ProbeTables.C11_pattern_table_shape
#print axioms SA.ProbeTables.C11_patterns_cover_b32
#print axioms SA.ProbeTables.C11_patterns_cover_b91
#print axioms SA.ProbeTables.C11_patterns_cover_b128
#print axioms SA.ProbeTables.C11_unprobed_characters
#print axioms SA.ProbeTables.C11_patterns_miss_b64
#print axioms SA.ProbeTables.C11_patterns_miss_b64u
#print axioms SA.ProbeTables.C11_patterns_miss_b85
#print axioms SA.ProbeTables.C11_header_alphabet_coverage
#print axioms SA.ProbeTables.C11_downcheck_misses
#print axioms SA.ProbeTables.C11_downcheck_raw
#print axioms SA.ProbeTables.C11_gap_explicit
#print axioms SA.ProbeTables.C11_patterns_sound_pointwise
