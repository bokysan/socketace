/-
  C02 — Multiplexed logical connections are isolated and independent (scheduler model of the
  per-session accept loop; partial: real goroutine schedules and smux's flow control are outside the
  model; "bytes never cross" rests on the multiplexer's per-stream FIFO contract plus C01's theorems
  (each pipeData call allocates its own copy buffer and conserves its own stream) and is sampled by the
  `xtalk` e2e runs with tagged payloads; no separate theorem is claimed for it).

  Two models.  SA.Accept: with the handler in a goroutine of its own the loop is always back in Accept, so a pending
  connection needs only accept steps and its own handler's step; with the handler inline one idle connection holds the
  loop (the witness, an invariant of the schedule).  SA.SessLife: the session outlives its connections because the
  server never closes it on a connection's goroutine — `Good`, carried along every schedule.
-/
import SA.Proofs.Accept
import SA.Proofs.SessLife
import SA.Gen.PkgVars
namespace SA.Accept

/-- **independent_if_spawned**: when the per-stream handler runs in its own goroutine, then from
    every reachable state — whatever other logical connections are open, idle or stalled, in whatever
    order things happened — a pending logical connection `p` is accepted and completes using only
    accept steps of the loop and steps of its own handler: no step of any other connection is needed. -/
theorem C02_independent_if_spawned (stalled : Nat → Bool) (hist : List AAct) (p : Nat) (hp : stalled p = false) :
    let s := arun true stalled ainit hist
    p ∈ s.pending →
    ∃ n, p ∈ (arun true stalled s (List.replicate n .accept ++ [.handler p])).finished := by
  intro s hmem
  obtain ⟨pre, post, hsplit⟩ := List.append_of_mem hmem
  refine ⟨pre.length + 1, ?_⟩
  have hl : s.loop = none := arun_loop_none stalled rfl hist
  have h1 := accept_prefix stalled hl hsplit
  have h2 := arun_loop_none stalled hl (List.replicate (pre.length + 1) .accept)
  -- the accepts leave the loop in Accept (`h2`) and `p`'s handler in a goroutine of its own (`h1`): its step is enabled
  have hr := arun_skipRun true stalled
  rw [hr.append, hr.cons, hr.nil, astep_handler_spawned hp (by simp [h2]) h1]
  exact List.mem_cons_self

/-- the current code spawns the per-stream handler (the obligation that breaks if the `go` is removed) -/
theorem C02_stream_handler_spawned : Gen.streamHandlerSpawned = true := rfl

theorem witness_step {s s' : ASt} {a : AAct} {p : Nat} (h : s.loop = some 0 ∧ p ∈ s.pending)
    (hs : astep false (fun id => decide (id = 0)) s a = some s') : s'.loop = some 0 ∧ p ∈ s'.pending := by
  cases astep_some hs with
  | arrive => exact ⟨h.1, List.mem_append_left _ h.2⟩
  | accept _ _ hl => simp [h.1] at hl
  | inline id hst hl =>
    -- the handler on the loop is peer 0's, and peer 0 is stalled
    cases Option.some.inj (h.1.symm.trans hl)
    simp at hst
  | spawned => exact h

/-- the witness for every schedule, further arrivals included -/
theorem witness_hol_all (acts : List AAct) :
    1 ∈ (arun false (fun id => decide (id = 0)) (arun false (fun id => decide (id = 0)) ainit [.arrive 0, .arrive 1, .accept])
      acts).pending :=
  ((arun_skipRun false _).invariant (P := fun s : ASt => s.loop = some 0 ∧ 1 ∈ s.pending)
    witness_step (by decide) acts).2

/-- the property quantifies over stalled connections holding less unread data than the multiplexer's shared
    4 MiB receive buffer: both ends of the current code give the multiplexer at least that much (a smaller
    buffer lets one stalled reader freeze every other logical connection sooner than the property allows) -/
theorem C02_receive_buffer_as_quantified :
    4194304 ≤ Gen.smuxRecvBufServer ∧ 4194304 ≤ Gen.smuxRecvBufClient := by decide

/-- **witness_hol**: with an inline handler (the code before the repair), one idle logical connection
    keeps a second one pending forever — in every schedule (arrivals of further connections aside). -/
theorem C02_witness_hol (acts : List AAct) (hna : ∀ a ∈ acts, ∀ id, a ≠ .arrive id) :
    let stalled : Nat → Bool := fun id => decide (id = 0)
    let s0 := arun false stalled ainit [.arrive 0, .arrive 1, .accept]
    1 ∈ (arun false stalled s0 acts).pending :=
  witness_hol_all acts

example : 5 ∈ (arun true (fun id => id < 5) ainit
    ((List.range 6).map AAct.arrive ++ List.replicate 6 .accept ++ [.handler 5])).finished := by decide

end SA.Accept

#print axioms SA.Accept.C02_independent_if_spawned
#print axioms SA.Accept.C02_stream_handler_spawned
#print axioms SA.Accept.C02_receive_buffer_as_quantified
#print axioms SA.Accept.C02_witness_hol

namespace SA.PkgState
/-- **no_hidden_process_state**: the models of this property are functions of their arguments and of the objects they are
    handed; the packages they model keep no package-level variables besides these (regenerated inventory: error
    sentinels, tables, compiled patterns, the two session time-outs).  A new package-level variable — a counter, a cache, a
    scratch buffer, a shared map, a registry — would make later calls depend on earlier ones, or concurrent calls on each
    other, outside anything a per-call comparison of model and code can see. -/
theorem C02_no_hidden_process_state :
    Gen.pkgVarNames_server = ["ChannelRegex"] ∧
    Gen.pkgVarNames_upstream = [] := ⟨rfl, rfl⟩
end SA.PkgState

#print axioms SA.PkgState.C02_no_hidden_process_state

namespace SA.SessLife
/-- **session_outlives_its_connections**: with the code's policy (the server never closes the session because a logical
    connection ended) and a carrier of any latency — every interleaving of opens, closes, frame arrivals and notifications,
    of any length — no connection's SYN ever reaches a closed session, the client never has to dial again, and every
    connection that was opened has been taken on by the server or its SYN is still travelling.  In particular a
    connection opened while the session's only other connection is being closed is served. -/
theorem C02_session_outlives_its_connections (as : List Act) :
    (run false {} as).lost = [] ∧ (run false {} as).redialled = 0 ∧
    ∀ id, Act.open_ id ∈ as → id ∈ (run false {} as).served ∨ Frame.syn id ∈ (run false {} as).inflight := by
  have h := run_good {} as init_good
  refine ⟨h.lost, h.redialled, fun id hid => ?_⟩
  -- the schedule up to the open, the open (its SYN starts to travel), the rest
  obtain ⟨xs, ys, rfl⟩ := List.append_of_mem hid
  have hg' := run_good {} xs init_good
  have e : run false {} (xs ++ .open_ id :: ys) = run false (step false (run false {} xs) (.open_ id)) ys :=
    List.foldl_append
  rw [e]
  exact run_keeps _ ys (step_good hg') (.inr (step_open hg'))

/-- the code has that policy: nothing that runs on the goroutine `acceptStream` starts per logical connection — its body
    and the functions of package server it calls — closes the server's session object (regenerated; the close sites
    themselves are listed in `Gen.sessionCloseSites` for the reader: the accept loop's own path after a fatal accept
    error, and the carrier watch when the carrier itself is lost, SA.Model.StalledSession) -/
theorem C02_session_close_sites : serverClosesFromStream = false := rfl

/-- witness: a server that releases the session with its last logical connection loses the connection opened while that
    close was travelling (A opened and served, A closed, B opened, FIN arrives, B's SYN arrives) -/
theorem C02_witness_close_when_empty :
    (run true {} [.open_ 1, .deliver, .close 1, .open_ 2, .deliver, .deliver]).lost = [2] ∧
    (run false {} [.open_ 1, .deliver, .close 1, .open_ 2, .deliver, .deliver]).served = [2, 1] := by decide
end SA.SessLife

#print axioms SA.SessLife.C02_session_outlives_its_connections
#print axioms SA.SessLife.C02_session_close_sites
#print axioms SA.SessLife.C02_witness_close_when_empty
