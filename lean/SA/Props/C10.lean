/-
  C10 — DNS tunnel responses survive the wire for every record type.

  The property is about the whole path `roundTrip`: server Encode → WrapDnsResponse → Pack → Unpack →
  UnwrapDnsResponse → client Decode.  At full strength (`C10_full`: for every response in range, every record type,
  every downstream codec meeting C08's round-trip theorem, every domain whose question packs, the client decodes the
  same response or an error is reported — never a different response, never a panic) it still fails on the repaired
  tree for one family, the Raw codec over CNAME / MX / SRV, where payload bytes '.' and '\' are taken as name syntax
  (`C10_witness_raw_over_names`, recorded as an open finding; Raw is documented as "only for TXT" / NULL).

  What is proved is `C10_full` outside that family (`C10_exception`) and while the order tags do not wrap
  (`C10_countOk`, exact by `C10_tag_range`).  The proofs follow the exits of `roundTrip` (SA.Proofs.DnsRespAll): the
  wrapper refuses, or a record does not survive Pack/Unpack — reported errors both — or what arrives carries the order
  tags o, o+1, … and the pieces of the payload (`Tagged`); then sorting by the decoded tag undoes any arrival order,
  under any correct sort (SA.Proofs.DnsRespSort), and the client's decoder inverts the encoder (SA.Proofs.DnsResp).
  For the record types whose payload DNS does not look into, wrapping and packing cannot fail, so there success is
  unconditional (`roundTrip_opaque`).  `C10_private_registered` and `C10_unwrap_undoes_escaping` are the facts read from
  the source that the PRIVATE and TXT cases rest on (they fail to compile if the repairs are reverted); the
  `C10_witness_*` are kernel-checked concrete failures of today's code.
-/
import SA.Proofs.DnsResp
import SA.Proofs.DnsRespAll
import SA.Gen.PkgVars
namespace SA.DnsResp
open SA.DnsWire SA.WireCodec SA.DnsReq

/-- the property at full strength (on the model) -/
def C10_full : Prop :=
  ∀ (b32 down : Codec), b32.Good → down.Good →
  ∀ (t : RRType) (domain : List Nat) (r : Resp), RespOk r → questionOk domain = true →
    match roundTrip b32 down t domain r with
    | .ok _ _ r' => r' = r
    | .panic => False
    | _ => True

/-- the region of `C10_partial`: record types whose payload is opaque to DNS, one record -/
def C10_region (t : RRType) (encodedLen : Nat) : Bool :=
  match t with
  | .null => encodedLen ≤ SA.Gen.C09.wrapChunkNull
  | .priv => encodedLen ≤ SA.Gen.C09.wrapChunkPrivate
  | .txt => encodedLen ≤ SA.Gen.C09.wrapChunkTxt
  | _ => false

/-- PRIVATE answers use the type number that is registered with miekg/dns (was 65000 vs 0xFFA0) -/
theorem C10_private_registered : SA.Gen.C09.queryTypePrivate = SA.Gen.C09.typeSocketAce := gen_private_registered

/-- UnwrapDnsResponse decodes presentation escapes for TXT and for names, the TXT wrapper escapes '\' -/
theorem C10_unwrap_undoes_escaping :
    SA.Gen.C09.unwrapUnescapesTxt = true ∧ SA.Gen.C09.unwrapUnescapesNames = true ∧ SA.Gen.C09.wrapTxtEscapes = true :=
  ⟨gen_unwrapUnescapesTxt, gen_unwrapUnescapesNames, gen_wrapTxtEscapes⟩

/-- **C10, wrap errors are reported.**  When WrapDnsResponse returns an error (A: more than 255 records;
    CNAME / MX: ErrTooLong) the outcome is that error; nothing is decoded. -/
theorem C10_error_reported_wrap (b32 down : Codec) (t : RRType) (domain : List Nat) (r : Resp)
    (h : wrap t domain (encodeResp b32 down r) = none) :
    roundTrip b32 down t domain r = .encError := roundTrip_wrap_none h

/-- **C10, pack / unpack errors are reported.**  When a record does not survive miekg's Pack/Unpack
    (A/AAAA not 4/16 bytes, label over 63, name over 255, TXT string over 255) the outcome is that
    error; the client never sees a payload. -/
theorem C10_error_reported_wire (b32 down : Codec) (t : RRType) (domain : List Nat) (r : Resp)
    (answers : List RR) (e : WireErr)
    (h1 : wrap t domain (encodeResp b32 down r) = some answers)
    (h2 : answersOverWire answers = .error e) :
    roundTrip b32 down t domain r = .packError ∨ roundTrip b32 down t domain r = .unpackError := by
  rw [roundTrip_wire_error h1 h2]
  split
  · exact .inr rfl
  · exact .inl rfl

/-! ### witnesses (kernel-evaluated on the executable model; each is a corpus line for the real code) -/

theorem raw_good : raw.Good := ⟨fun _ _ => rfl⟩

theorem respOk_packet {ack seq : Nat} {data : List Nat} (ha : ack < 65536) (hs : seq < 65536) (hd : SA.Bytes data) :
    RespOk (.packet none ack (some (seq, data))) :=
  ⟨fun e he => (by cases he), ha, fun p hp => (by cases hp; exact ⟨hs, hd⟩), fun he => (by cases he)⟩

/-- A records: an 11-byte response (version reply, Base32) leaves a 3-byte last record: `overflow packing a`.
    Reported error, no corruption. -/
theorem C10_witness_a_residue :
    roundTrip base32 base32 .a [97, 46, 98] (.version 1 2 none) = .packError := by decide

/-- AAAA records: same, the last record is not 16 bytes. -/
theorem C10_witness_aaaa_residue :
    roundTrip base32 base32 .aaaa [97, 46, 98] (.version 1 2 none) = .packError := by decide

set_option maxRecDepth 8000 in
/-- SRV: the target is one undotted label; 40 payload bytes make it longer than 63.  Reported error. -/
theorem C10_witness_srv_label :
    roundTrip base32 base32 .srv [97, 46, 98]
      (.packet none 1 (some (2, List.replicate 40 7))) = .packError := by decide +kernel

/-- Raw over CNAME: the payload byte '.' is taken as a label separator and silently disappears —
    the client decodes a *different* packet and no error is reported.  So `C10_full` does not hold. -/
theorem C10_witness_raw_over_names : ¬ C10_full := by
  intro h
  have hr : RespOk (.packet none 1 (some (2, [65, 46, 66]))) := respOk_packet (by decide) (by decide) (by decide)
  have hv : roundTrip raw raw .cname [97, 46, 98] (.packet none 1 (some (2, [65, 46, 66])))
      = .ok 1 8 (.packet none 1 (some (2, [65, 66]))) := by decide +kernel
  -- `h` is instantiated at a variable response first: at the concrete one the elaborator would run `roundTrip`
  -- itself, to reduce the `match` in the instance
  have key : ∀ r, RespOk r → ∀ o, roundTrip raw raw .cname [97, 46, 98] r = o →
      match o with | .ok _ _ r' => r' = r | .panic => False | _ => True :=
    fun r hr o ho => ho ▸ h raw raw raw_good raw_good .cname [97, 46, 98] r hr (by decide)
  exact absurd (key _ hr _ hv) (by decide)

/-- the model's insertion sort meets the contract of a comparison sort (permutation, ordered) -/
theorem C10_sort_model_correct : SortSpec sortByKey := sortByKey_spec

/-- any two correct comparison sorts (the model's, Go's `sort.Slice`, …) agree whenever the keys are
    pairwise distinct — stability is irrelevant there -/
theorem C10_sorts_agree_on_distinct_tags {s₁ s₂ : List (Int × RR) → List (Int × RR)}
    (h₁ : SortSpec s₁) (h₂ : SortSpec s₂) (xs : List (Int × RR)) (hd : xs.Pairwise (fun a b => a.1 ≠ b.1)) :
    s₁ xs = s₂ xs := sorts_agree h₁ h₂ xs hd

/-- **Key lemma: sorting by the decoded tag is the inverse of tagging.**  `rs` are records tagged
    o, o+1, … (`Tagged`: TypePriority decodes `kf` of the tag, UnwrapDnsResponse extracts the piece);
    if `kf` is strictly increasing on the tags used, then for ANY arrival order `xs` of the records and
    ANY correct sort, unwrapping yields the pieces concatenated in tagging order. -/
theorem C10_sort_inverts_tagging {sort : List (Int × RR) → List (Int × RR)} (hs : SortSpec sort)
    (L : Nat) (kf : Nat → Int) (o : Nat) (rs : List RR) (ds : List (List Nat)) (ht : Tagged L kf o rs ds)
    (hmono : ∀ i j, o ≤ i → i < j → j < o + rs.length → kf i < kf j)
    (xs : List RR) (hp : xs.Perm rs) :
    unwrapWith sort L xs = some ds.flatten := unwrap_tagged hs L kf o rs ds ht hmono xs hp

/-- **The tag range, exactly.**  For each record type the decoded order tag (`tagKey`: little-endian
    16-bit for NULL / PRIVATE / AAAA, one byte for A, Preference = 10·order mod 2¹⁶ for MX, Priority for
    SRV, and for TXT / CNAME the two base-32 characters `order & 31`, `(order >> 4) & 31` read back as
    c0 + 32·c1) is strictly increasing over the first `tagBound` records, and the tag of the next
    record is not above that of the first: reassembly by sorting is correct up to exactly
    65535 / 65535 / 65535 / 255 / 6553 / 65535 / 512 / 511 records. -/
theorem C10_tag_range (t : RRType) :
    (∀ i j, tagStart t ≤ i → i < j → j < tagStart t + tagBound t → tagKey t i < tagKey t j)
    ∧ tagKey t (tagStart t + tagBound t) ≤ tagKey t (tagStart t) :=
  ⟨fun _ _ _ hij hj => tagKey_mono t hij hj, tagKey_wraps t⟩

/-- the record count WrapDnsResponse produces stays within the tag range -/
def C10_countOk (t : RRType) (domainLen len : Nat) : Bool := recordCount t domainLen len ≤ tagBound t

/-- the region excepted from the theorems below = the open finding `C10-raw-over-names`: a
    name-carrying record type (CNAME, MX, SRV) and an encoded payload containing '.' or '\\' -/
def C10_exception (t : RRType) (enc : List Nat) : Bool := rawOverNames t enc

/-- **C10, reassembly for every record type and payload length.**  Whenever WrapDnsResponse succeeds
    and every record survives Pack/Unpack — outside the exception region, within the tag range, for
    CNAME/MX/SRV over a domain of plain labels — the client decodes exactly the response that was sent,
    from as many records as the wrapper made; and UnwrapDnsResponse would return the same payload for
    any arrival order of the records and any correct sort. -/
theorem C10_reassembly (b32 down : Codec) (hb : b32.Good) (hd : down.Good)
    (t : RRType) (domain : List Nat) (dls : List (List Nat)) (r : Resp) (hr : RespOk r)
    (hq : questionOk domain = true) (hbytes : SA.Bytes (encodeResp b32 down r))
    (hexc : C10_exception t (encodeResp b32 down r) = false)
    (hdom : isName t = true → DomainOk domain dls)
    (hcount : C10_countOk t domain.length (encodeResp b32 down r).length = true)
    (answers got : List RR)
    (hw : wrap t domain (encodeResp b32 down r) = some answers) (hwire : answersOverWire answers = .ok got) :
    roundTrip b32 down t domain r
        = .ok (recordCount t domain.length (encodeResp b32 down r).length) (encodeResp b32 down r).length r
    ∧ ∀ sort, SortSpec sort → ∀ xs, xs.Perm got →
        unwrapWith sort domain.length xs = some (encodeResp b32 down r) :=
  ⟨roundTrip_reassembly hb hd dls hr hq hbytes hexc hdom (of_decide_eq_true hcount) hw hwire,
    unwrap_wire_wrap t domain dls _ answers got hbytes hexc hdom hw hwire (of_decide_eq_true hcount)⟩

/-- **C10, NULL and PRIVATE, every payload length.**  ⌈len/65530⌉ records, little-endian 16-bit order
    tags; as long as that count is at most 65535 the round trip succeeds. -/
theorem C10_multi_null_priv (b32 down : Codec) (hb : b32.Good) (hd : down.Good)
    (t : RRType) (ht : t = .null ∨ t = .priv) (domain : List Nat) (r : Resp) (hr : RespOk r)
    (hq : questionOk domain = true) (hbytes : SA.Bytes (encodeResp b32 down r))
    (hcount : C10_countOk t domain.length (encodeResp b32 down r).length = true) :
    roundTrip b32 down t domain r
      = .ok (ceilDiv (encodeResp b32 down r).length 65530) (encodeResp b32 down r).length r := by
  -- the record count of `roundTrip_opaque` is ⌈len / Gen.C09.wrapChunkNull⌉ (PRIVATE alike); the chunk evaluates to 65530
  rcases ht with rfl | rfl <;> exact roundTrip_opaque hb hd rfl nofun hr hq hbytes (of_decide_eq_true hcount)

/-- **C10, TXT, every payload length.**  253-byte strings, 250 strings per record, backslashes doubled
    by the wrapper and every byte value escaped by miekg and unescaped by the client; as long as the
    record count ⌈⌈len/253⌉/250⌉ is at most 512 the round trip succeeds. -/
theorem C10_multi_txt (b32 down : Codec) (hb : b32.Good) (hd : down.Good)
    (domain : List Nat) (r : Resp) (hr : RespOk r)
    (hq : questionOk domain = true) (hbytes : SA.Bytes (encodeResp b32 down r))
    (hcount : C10_countOk .txt domain.length (encodeResp b32 down r).length = true) :
    roundTrip b32 down .txt domain r
      = .ok (ceilDiv (ceilDiv (encodeResp b32 down r).length 253) 250) (encodeResp b32 down r).length r :=
  roundTrip_opaque hb hd rfl nofun hr hq hbytes (of_decide_eq_true hcount)

/-- **C10, working region.**  One record: the case ⌈len / chunk⌉ = 1 of `C10_multi_null_priv` / `C10_multi_txt`. -/
theorem C10_partial (b32 down : Codec) (hb : b32.Good) (hd : down.Good)
    (t : RRType) (domain : List Nat) (r : Resp) (hr : RespOk r) (hq : questionOk domain = true)
    (hbytes : SA.Bytes (encodeResp b32 down r))
    (hreg : C10_region t (encodeResp b32 down r).length = true) :
    roundTrip b32 down t domain r = .ok 1 (encodeResp b32 down r).length r := by
  have hpos : 0 < (encodeResp b32 down r).length := List.length_pos_iff.mpr (encodeResp_ne_nil b32 down r)
  cases t with
  | null | priv =>
    -- `hreg` is `len ≤ Gen.C09.wrapChunkNull` / `…Private`, which are 65530 (TXT below: 253)
    have h := ceilDiv_eq_one (c := 65530) hpos (of_decide_eq_true hreg)
    rw [C10_multi_null_priv b32 down hb hd _ (by simp) domain r hr hq hbytes
      (by simp [C10_countOk, recordCount, gen_wrapChunkNull, gen_wrapChunkPrivate, h, tagBound]), h]
  | txt =>
    have h := ceilDiv_eq_one (c := 253) hpos (of_decide_eq_true hreg)
    have h' := ceilDiv_eq_one (n := 1) (c := 250) (by decide) (by decide)
    rw [C10_multi_txt b32 down hb hd domain r hr hq hbytes
      (by simp [C10_countOk, recordCount, gen_wrapChunkTxt, gen_wrapTxtStrings, h, h', tagBound]), h, h']
  | srv | mx | cname | aaaa | a => simp [C10_region] at hreg

/-- **C10, A and AAAA, on the region where packing succeeds** (payload a multiple of 3 / 14 bytes, at
    most 255 / 65535 records): the round trip succeeds. -/
theorem C10_multi_a_aaaa (b32 down : Codec) (hb : b32.Good) (hd : down.Good)
    (t : RRType) (ht : (t = .a ∧ (encodeResp b32 down r).length % 3 = 0)
      ∨ (t = .aaaa ∧ (encodeResp b32 down r).length % 14 = 0))
    (domain : List Nat) (hr : RespOk r)
    (hq : questionOk domain = true) (hbytes : SA.Bytes (encodeResp b32 down r))
    (hcount : C10_countOk t domain.length (encodeResp b32 down r).length = true) :
    roundTrip b32 down t domain r
      = .ok (recordCount t domain.length (encodeResp b32 down r).length) (encodeResp b32 down r).length r := by
  rcases ht with ⟨rfl, hm⟩ | ⟨rfl, hm⟩ <;>
    exact roundTrip_opaque hb hd rfl (fun _ => hm) hr hq hbytes (of_decide_eq_true hcount)

/-- **C10, the A tag cannot wrap silently**: more than 255 A records are refused by the wrapper. -/
theorem C10_a_overflow_reported (b32 down : Codec) (domain : List Nat) (r : Resp)
    (hcount : C10_countOk .a domain.length (encodeResp b32 down r).length = false) :
    roundTrip b32 down .a domain r = .encError := by
  apply C10_error_reported_wrap
  exact (wrap_a_none_iff _ _).mpr (Nat.not_le.mp (of_decide_eq_false hcount))

/-- **C10, no silent corruption.**  On every input — every record type, every payload length, every
    codec pair with round trip, every response in range — outside the exception region
    (`C10_exception`, the open finding) and within the tag range (`C10_countOk`), over a domain of plain
    labels for the name-carrying types: the client's result is the response that was sent or a
    reported error; never a different response, never a panic. -/
theorem C10_no_silent_corruption (b32 down : Codec) (hb : b32.Good) (hd : down.Good)
    (t : RRType) (domain : List Nat) (dls : List (List Nat)) (r : Resp) (hr : RespOk r)
    (hq : questionOk domain = true) (hbytes : SA.Bytes (encodeResp b32 down r))
    (hexc : C10_exception t (encodeResp b32 down r) = false)
    (hdom : isName t = true → DomainOk domain dls)
    (hcount : C10_countOk t domain.length (encodeResp b32 down r).length = true) :
    match roundTrip b32 down t domain r with
    | .ok _ _ r' => r' = r
    | .panic => False
    | _ => True := by
  cases hw : wrap t domain (encodeResp b32 down r) with
  | none => rw [C10_error_reported_wrap b32 down t domain r hw]; trivial
  | some answers =>
    cases hwire : answersOverWire answers with
    | error e =>
      rcases C10_error_reported_wire b32 down t domain r answers e hw hwire with h | h <;> rw [h] <;> trivial
    | ok got =>
      rw [(C10_reassembly b32 down hb hd t domain dls r hr hq hbytes hexc hdom hcount answers got hw hwire).1]

/-- the hypotheses of `C10_partial` are satisfiable together (Raw over NULL, TXT and PRIVATE; the TXT
    payload contains '"', '\', NUL and a high byte, i.e. everything miekg escapes) -/
example : ∀ t ∈ [RRType.null, RRType.txt, RRType.priv],
    roundTrip raw raw t [97, 46, 98] (.packet none 1 (some (2, [34, 92, 0, 250, 46])))
      = .ok 1 11 (.packet none 1 (some (2, [34, 92, 0, 250, 46]))) := by
  intro t ht
  have hr : RespOk (.packet none 1 (some (2, [34, 92, 0, 250, 46]))) := respOk_packet (by decide) (by decide) (by decide)
  have hreg : C10_region t (encodeResp raw raw (.packet none 1 (some (2, [34, 92, 0, 250, 46])))).length = true := by
    simp at ht; rcases ht with rfl | rfl | rfl <;> decide
  exact C10_partial raw raw raw_good raw_good t _ _ hr (by decide) (by decide) hreg

/-- every error code of BadErrors is an admissible error text -/
example : ∀ e ∈ SA.Gen.C09.badErrors, ErrOk e := by decide

theorem bytes_replicate (n b : Nat) (hb : b < 256) : SA.Bytes (List.replicate n b) := .replicate n hb

theorem respOk_downEnc (d : List Nat) (hd : SA.Bytes d) : RespOk (.downEnc none d) :=
  ⟨fun e he => (by cases he), hd, fun h => (by simp at h)⟩

theorem enc_downEnc_raw (d : List Nat) : encodeResp raw raw (.downEnc none d) = 121 :: 111 :: d := rfl

theorem downEnc_raw_length (n b : Nat) : (encodeResp raw raw (.downEnc none (List.replicate n b))).length = n + 2 := by
  simp [enc_downEnc_raw]

theorem downEnc_raw_bytes (n b : Nat) (hb : b < 256) : SA.Bytes (encodeResp raw raw (.downEnc none (List.replicate n b))) :=
  bytes_cons (by decide) (bytes_cons (by decide) (bytes_replicate n b hb))

/-- NULL and PRIVATE: any number of records up to 65535 (here: every payload length n, ⌈(n+2)/65530⌉ records) -/
example (n : Nat) (hn : n + 2 ≤ 65535 * 65530) (t : RRType) (ht : t = .null ∨ t = .priv) :
    roundTrip raw raw t [97, 46, 98] (.downEnc none (List.replicate n 7))
      = .ok (ceilDiv (n + 2) 65530) (n + 2) (.downEnc none (List.replicate n 7)) := by
  have h := C10_multi_null_priv raw raw raw_good raw_good t ht [97, 46, 98] _
    (respOk_downEnc _ (bytes_replicate n 7 (by decide))) (by decide) (downEnc_raw_bytes n 7 (by decide))
  rw [downEnc_raw_length] at h
  refine h (decide_eq_true ?_)
  rcases ht with rfl | rfl <;> exact (show (n + 2 + 65530 - 1) / 65530 ≤ 65535 by omega)

/-- TXT: every payload length up to 512 records, payload made of backslashes (the escaping path) -/
example (n : Nat) (hn : n + 2 ≤ 512 * 250 * 253) :
    roundTrip raw raw .txt [97, 46, 98] (.downEnc none (List.replicate n 92))
      = .ok (ceilDiv (ceilDiv (n + 2) 253) 250) (n + 2) (.downEnc none (List.replicate n 92)) := by
  have h := C10_multi_txt raw raw raw_good raw_good [97, 46, 98] _
    (respOk_downEnc _ (bytes_replicate n 92 (by decide))) (by decide) (downEnc_raw_bytes n 92 (by decide))
  rw [downEnc_raw_length] at h
  exact h (decide_eq_true (show ((n + 2 + 253 - 1) / 253 + 250 - 1) / 250 ≤ 512 by omega))

/-- A: every payload of 3k bytes up to 255 records; AAAA: 14k bytes up to 65535 records -/
example (k : Nat) (hk1 : 1 ≤ k) (hk : k ≤ 255) :
    roundTrip raw raw .a [97, 46, 98] (.downEnc none (List.replicate (3 * k - 2) 200))
      = .ok k (3 * k) (.downEnc none (List.replicate (3 * k - 2) 200)) := by
  have h := C10_multi_a_aaaa (r := .downEnc none (List.replicate (3 * k - 2) 200)) raw raw raw_good raw_good .a
    (.inl ⟨rfl, by rw [downEnc_raw_length]; omega⟩) [97, 46, 98] (respOk_downEnc _ (bytes_replicate _ 200 (by decide)))
    (by decide) (downEnc_raw_bytes _ 200 (by decide))
  rw [downEnc_raw_length, show 3 * k - 2 + 2 = 3 * k by omega,
    show recordCount .a [97, 46, 98].length (3 * k) = k from (show (3 * k + 3 - 1) / 3 = k by omega)] at h
  exact h (decide_eq_true (show (3 * k + 3 - 1) / 3 ≤ 255 by omega))

theorem domainOk_ab : DomainOk [97, 46, 98] [[97], [98]] := by
  refine ⟨by decide, ?_, ?_⟩
  · unfold GoodLabel NoSyntax; decide
  · unfold PlainLabel; decide

/-- CNAME, MX, SRV: the hypotheses of `C10_no_silent_corruption` / `C10_reassembly` are satisfiable
    together and the `ok` branch is reached (version reply, bytes 0 and 1 in the payload are `\DDD`
    on the way back) -/
example : ∀ t ∈ [RRType.cname, RRType.mx, RRType.srv],
    roundTrip raw raw t [97, 46, 98] (.version 1 2 none) = .ok 1 8 (.version 1 2 none)
    ∧ C10_exception t (encodeResp raw raw (.version 1 2 none)) = false
    ∧ C10_countOk t [97, 46, 98].length (encodeResp raw raw (.version 1 2 none)).length = true := by decide +kernel

example : ∀ t ∈ [RRType.cname, RRType.mx, RRType.srv],
    match roundTrip raw raw t [97, 46, 98] (.version 1 2 none) with
    | .ok _ _ r' => r' = .version 1 2 none
    | .panic => False
    | _ => True := by
  intro t ht
  have hr : RespOk (.version 1 2 none) := ⟨by decide, by decide, fun e he => (by cases he)⟩
  have h : C10_exception t (encodeResp raw raw (.version 1 2 none)) = false
      ∧ C10_countOk t [97, 46, 98].length (encodeResp raw raw (.version 1 2 none)).length = true := by
    simp at ht; rcases ht with rfl | rfl | rfl <;> decide
  exact C10_no_silent_corruption raw raw raw_good raw_good t [97, 46, 98] [[97], [98]] _ hr (by decide) (by decide)
    h.1 (fun _ => domainOk_ab) h.2

/-- the key lemma is not vacuous: three NULL records arriving in the order 3, 1, 2 -/
example : unwrap 3 [.null [3, 0, 30], .null [1, 0, 10, 11], .null [2, 0, 20]] = some [10, 11, 20, 30]
    ∧ Tagged 3 (tagKey .null) 1 [.null [1, 0, 10, 11], .null [2, 0, 20], .null [3, 0, 30]] [[10, 11], [20], [30]] := by
  refine ⟨by decide, ?_⟩
  exact Tagged.cons _ _ _ _ _ (by decide) (by decide) (Tagged.cons _ _ _ _ _ (by decide) (by decide)
    (Tagged.cons _ _ _ _ _ (by decide) (by decide) (Tagged.nil _)))

/-- the tag range is tight: TXT record 513 (order 512) carries the tag of record 1 (order 0);
    CNAME record 512 sorts before record 1; AAAA record 65536 carries tag 0 -/
example : tagKey .txt 512 = tagKey .txt 0 ∧ tagKey .cname 512 < tagKey .cname 1
    ∧ tagKey .aaaa 65536 < tagKey .aaaa 1 ∧ tagKey .mx 6554 < tagKey .mx 1 := by decide

end SA.DnsResp

#print axioms SA.DnsResp.C10_private_registered
#print axioms SA.DnsResp.C10_unwrap_undoes_escaping
#print axioms SA.DnsResp.C10_partial
#print axioms SA.DnsResp.C10_error_reported_wrap
#print axioms SA.DnsResp.C10_error_reported_wire
#print axioms SA.DnsResp.C10_witness_a_residue
#print axioms SA.DnsResp.C10_witness_aaaa_residue
#print axioms SA.DnsResp.C10_witness_srv_label
#print axioms SA.DnsResp.C10_witness_raw_over_names
#print axioms SA.DnsResp.C10_sort_model_correct
#print axioms SA.DnsResp.C10_sorts_agree_on_distinct_tags
#print axioms SA.DnsResp.C10_sort_inverts_tagging
#print axioms SA.DnsResp.C10_tag_range
#print axioms SA.DnsResp.C10_reassembly
#print axioms SA.DnsResp.C10_multi_null_priv
#print axioms SA.DnsResp.C10_multi_txt
#print axioms SA.DnsResp.C10_multi_a_aaaa
#print axioms SA.DnsResp.C10_a_overflow_reported
#print axioms SA.DnsResp.C10_no_silent_corruption

namespace SA.PkgState
/-- **no_hidden_process_state**: the models of this property are functions of their arguments and of the objects they are
    handed; the packages they model keep no package-level variables besides these (regenerated inventory: error
    sentinels, tables, compiled patterns, the two session time-outs).  A new package-level variable — a counter, a cache, a
    scratch buffer, a shared map, a registry — would make later calls depend on earlier ones, or concurrent calls on each
    other, outside anything a per-call comparison of model and code can see. -/
theorem C10_no_hidden_process_state :
    Gen.pkgVarNames_dnscommands = ["BadCodec", "BadCommand", "BadConn", "BadErrors", "BadFrag", "BadIp", "BadLen", "BadServerFull", "BadUser", "BadVersion", "CmdError", "CmdLogin", "CmdPacket", "CmdSetOptions", "CmdTestDownstreamEncoder", "CmdTestDownstreamFragmentSize", "CmdTestMultiQuery", "CmdTestUpstreamEncoder", "CmdVersion", "Commands", "Digits", "ErrTimeout", "LazyModeOk", "NoData", "VersionNotOk", "VersionOk"] ∧
    Gen.pkgVarNames_dnsutil = ["DotRegex", "DownloadCodecCheck", "ErrCaseSwap", "ErrDeadlineExceeded", "ErrInvalidSequenceNumber", "ErrStreamBroken", "ErrTooLong", "QueryTypeA", "QueryTypeAAAA", "QueryTypeCname", "QueryTypeMx", "QueryTypeNull", "QueryTypePrivate", "QueryTypeSrv", "QueryTypeTxt", "QueryTypesByPriority"] :=
  ⟨rfl, rfl⟩
end SA.PkgState

#print axioms SA.PkgState.C10_no_hidden_process_state
