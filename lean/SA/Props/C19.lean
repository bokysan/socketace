/-
  C19 — Stream wrappers close their resource exactly once.

  The lemmas about trees and paths are in SA.Proofs.Wrappers; here: the passage from handles to paths, and the property
  theorems.
  Quantifiers: every composition `d` built by the real constructor functions (any nesting depth,
  wrapper at the root), resources that succeed or fail on close and that do or do not implement
  `Closed()`, every sequence of Read/Write/Close/Closed/String calls addressed to *any* wrapper
  handle of the composition — every object returned by one of the constructor calls, the outermost
  one (handle 0) and the inner ones the caller still holds (`validOps`: the handle exists and is
  not a bare resource).  `hpath d h` is the place of handle `h`'s object in the runtime tree; with
  the constructors' reuse rule several handles can denote one object.
  Side conditions: sequential calls; the resources under a composition are distinct objects and are
  not closed behind the wrappers' back.

  The model functions `run`, `close`, `closeAt`, `closedQ`, `closedAt` are the `…G` functions at the regenerated fact
  `SA.Gen.c19PairClosedAnd` (connective of `ReadWriteCloser.Closed()`); the lemmas are for `true`, and every step
  below that passes from one to the other unfolds the fact, so the proofs stop checking if it changes.
-/
import SA.Proofs.Wrappers
import SA.Gen.PkgVars
namespace SA.Wrappers

theorem valid_mem {d : Desc} {ops : List NOp} (hv : validOps d ops = true) {o : NOp} (ho : o ∈ ops) :
    wrapperAt (build d) (hpath d o.1) = true := by
  have := List.all_eq_true.mp hv o ho
  cases e : (handles d)[o.1]? with
  | none => simp [e] at this
  | some p => simpa [e, hpath, List.getD_eq_getElem?_getD] using this

theorem hpath_zero (d : Desc) : hpath d 0 = [] := by
  cases d <;> rfl

theorem mem_resolve {d : Desc} {ops : List NOp} {x : Path × Op} (hx : x ∈ resolve d ops) :
    ∃ o ∈ ops, x = (hpath d o.1, o.2) :=
  have ⟨o, ho, e⟩ := List.mem_map.mp hx
  ⟨o, ho, e.symm⟩

/-- a run with one op singled out: the run up to it, the op, the rest from where that ended -/
theorem runG_split (cj : Bool) (d : Desc) (pre post : List NOp) (o : NOp) :
    runG cj d (pre ++ o :: post) =
      ((runPG cj (stepAtG cj (runG cj d pre).1 (hpath d o.1) o.2).1 (resolve d post)).1,
        (runG cj d pre).2 ++ (stepAtG cj (runG cj d pre).1 (hpath d o.1) o.2).2 ::
          (runPG cj (stepAtG cj (runG cj d pre).1 (hpath d o.1) o.2).1 (resolve d post)).2) := by
  simp only [runG, resolve, List.map_append, List.map_cons, runP_append, runPG]

theorem reach (d : Desc) (ops : List NOp) (hv : ∀ o ∈ ops, wrapperAt (build d) (hpath d o.1) = true) :
    Inv (runG true d ops).1 ∧ Le (build d) (runG true d ops).1 :=
  ⟨runP_inv (build_inv d) _ fun x hx => by obtain ⟨o, ho, rfl⟩ := mem_resolve hx; exact hv o ho,
    runP_le true (build d) (resolve d ops)⟩

theorem reach_at {d : Desc} {ops : List NOp} {h : Nat} {op : Op} (hv : validOps d ((h, op) :: ops) = true) :
    ∃ t, sub (runG true d ops).1 (hpath d h) = some t ∧ Inv t ∧ isRes t = false := by
  obtain ⟨hi, hl⟩ := reach d ops fun _ ho => valid_mem hv (.tail _ ho)
  obtain ⟨t, hs, hn⟩ := wrapperAt_iff.mp (le_wrapperAt hl (valid_mem hv (.head _)))
  exact ⟨t, hs, inv_sub hi hs, hn⟩

/-- the regenerated connective of `ReadWriteCloser.Closed()`: the lemmas are for this value -/
theorem gen_pairClosedAnd : Gen.c19PairClosedAnd = true := rfl

/-- **never twice**: in every reachable state (after any sequence of ops on any wrapper handles)
    no resource has received more than one `Close`. -/
theorem C19_never_twice (d : Desc) (hw : d.isWrapper = true) (ops : List NOp)
    (hv : validOps d ops = true) : ∀ c ∈ counts (run d ops).1, c ≤ 1 :=
  inv_counts (reach d ops fun _ => valid_mem hv).1

/-- what a caller sees of a closed wrapper object -/
theorem done_at {w : W} {p : Path} (h : DoneAt w p) (hi : Inv w) :
    ∃ t, sub w p = some t ∧ (∀ c ∈ counts t, c = 1) ∧ closeAtG true w p = (w, true) ∧
      closedAtG true w p = some true := by
  obtain ⟨t, hs, hd, hn⟩ := h
  have hit := inv_sub hi hs
  exact ⟨t, hs, done_counts hd, closeAt_fix true hs (done_close hit hn hd),
    by simp only [closedAtG, hs]; exact (closedQ_iff_done hit (cnt0_of_not_res hn)).mpr hd⟩

/-- **close closes the subtree once**: after a `Close` on handle `h` — immediately and after
    any further ops on any handles — every resource under `h` has received exactly one `Close`,
    a further `Close` on `h` returns success (and changes nothing), and `Closed()` on `h` answers
    true; whatever the nesting depth, whether or not a resource's own close failed. -/
theorem C19_close_closes_subtree_once (d : Desc) (hw : d.isWrapper = true) (pre post : List NOp)
    (h : Nat) (hv : validOps d (pre ++ (h, Op.close) :: post) = true) :
    ∃ t, sub (run d (pre ++ (h, Op.close) :: post)).1 (hpath d h) = some t ∧
      (∀ c ∈ counts t, c = 1) ∧
      closeAt (run d (pre ++ (h, Op.close) :: post)).1 (hpath d h)
        = ((run d (pre ++ (h, Op.close) :: post)).1, true) ∧
      closedAt (run d (pre ++ (h, Op.close) :: post)).1 (hpath d h) = some true := by
  -- the state after `pre`, then after the Close on `h`, then after the rest of the run
  obtain ⟨hi1, hl1⟩ := reach d pre fun o ho => valid_mem hv (by simp [ho])
  obtain ⟨t1, hs1, hn1⟩ := wrapperAt_iff.mp (le_wrapperAt hl1 (valid_mem hv (o := (h, Op.close)) (by simp)))
  have h2 := (closeAt_inv hi1 hs1 hn1).2
  have hi3 := (reach d _ fun _ => valid_mem hv).1
  have hl3 : Le (closeAtG true (runG true d pre).1 (hpath d h)).1 (runG true d (pre ++ (h, Op.close) :: post)).1 := by
    rw [runG_split]; exact runP_le true _ _
  exact done_at (h2.le hl3 hi3) hi3

/-- the statement of `C19_closed_implies_closed`, for either connective -/
def ClosedImpliesClosed (cj : Bool) : Prop :=
  ∀ (d : Desc), d.isWrapper = true → ∀ (ops : List NOp) (h : Nat),
    validOps d ((h, Op.closed) :: ops) = true →
    closedAtG cj (runG cj d ops).1 (hpath d h) = some true →
    ∃ t, sub (runG cj d ops).1 (hpath d h) = some t ∧ ∀ c ∈ counts t, c = 1

/-- **reports closed ⇒ is closed**: whenever `Closed()` on a wrapper handle answers true, every
    resource under that handle has received exactly one `Close`. -/
theorem C19_closed_implies_closed : ClosedImpliesClosed Gen.c19PairClosedAnd := by
  rw [gen_pairClosedAnd]
  intro d hw ops h hv hq
  obtain ⟨t, hs, hi, hn⟩ := reach_at hv
  have hq : closedQG true t = some true := by simpa only [closedAtG, hs] using hq
  exact ⟨t, hs, done_counts ((closedQ_iff_done hi (cnt0_of_not_res hn)).mp hq)⟩

/-- with `||` in `ReadWriteCloser.Closed()` the statement is false: a pair over an already-safe
    reader that the caller closes through its own handle reports closed while its writer's
    resource has not been closed. -/
theorem C19_witness_pair_or : ¬ ClosedImpliesClosed false := by
  intro hc
  obtain ⟨t, hs, hall⟩ := hc (.pair (.safe .reader (.res 0 false false)) (.res 1 false false)) rfl
    [(1, Op.close)] 0 (by decide) (by decide)
  cases hs
  exact absurd (hall 0 (by decide)) (by decide)

/-- **false before**: `Closed()` on handle `h` answers false as long as, for at least one of the
    Safe* objects `f` whose flags make up `h`'s status (`deps`: the object itself, the embedded
    Safe* object of a Named*/Simulated/StreamWrapped wrapper, each of the two halves of a pair), no
    `Close` has been issued on that object or on a handle enclosing it (`pre q p`: `q` is `p` or
    encloses it).  In particular: no `Close` on `h`, on a handle enclosing `h`, and — for a pair —
    on at most one of its halves. -/
theorem C19_closed_false_before (d : Desc) (ops : List NOp) (h : Nat) (t : W)
    (hs : sub (run d ops).1 (hpath d h) = some t) (f : Path) (hf : f ∈ deps t)
    (hno : ∀ o ∈ ops, o.2 = Op.close → pre (hpath d o.1) (hpath d h ++ f) = false) :
    closedAt (run d ops).1 (hpath d h) = some false := by
  simp only [run, closedAt, gen_pairClosedAnd] at hs ⊢
  -- the flag at `f` below `h` is what it was when the composition was built: not set
  have hfl : flagAt (runG true d ops).1 (hpath d h ++ f) = flagAt (build d) (hpath d h ++ f) :=
    runP_flag true (build d) (resolve d ops) _ fun x hx hc => by
      obtain ⟨o, ho, rfl⟩ := mem_resolve hx
      exact hno o ho hc
  obtain ⟨fl, hfl2, hq⟩ := deps_status hf
  rw [flagAt_append hs f, hfl2] at hfl
  rw [closedAtG, hs]
  exact hq (fresh_flagAt (build_fresh d) hfl.symm)

/-- every wrapper object has at least one such Safe* object (so the previous theorem applies) -/
theorem C19_status_objects_exist (d : Desc) (hw : d.isWrapper = true) (ops : List NOp) (h : Nat)
    (hv : validOps d ((h, Op.closed) :: ops) = true) :
    ∃ t, sub (run d ops).1 (hpath d h) = some t ∧ deps t ≠ [] := by
  obtain ⟨t, hs, hi, hn⟩ := reach_at hv
  exact ⟨t, hs, deps_ne_nil hi hn⟩

/-- with no `Close` at all, no resource has been closed -/
theorem C19_no_close_no_effect (d : Desc) (ops : List NOp) (hn : ∀ o ∈ ops, o.2 ≠ Op.close) :
    ∀ c ∈ counts (run d ops).1, c = 0 := by
  have : (runG true d ops).1 = build d := runP_noclose true _ _ fun x hx => by
    obtain ⟨o, ho, rfl⟩ := mem_resolve hx
    exact hn o ho
  show ∀ c ∈ counts (runG true d ops).1, c = 0
  rw [this]
  exact fresh_counts (build_fresh d)

/-- as soon as the sequence contains a `Close` on the outermost wrapper, every resource of the
    composition has received exactly one `Close`, whatever else was or is done on any handle;
    repeats return success and `Closed()` answers true -/
theorem C19_outermost_close_once (d : Desc) (hw : d.isWrapper = true) (pre post : List NOp)
    (hv : validOps d (pre ++ (0, Op.close) :: post) = true) :
    (∀ c ∈ counts (run d (pre ++ (0, Op.close) :: post)).1, c = 1) ∧
    close (run d (pre ++ (0, Op.close) :: post)).1 = ((run d (pre ++ (0, Op.close) :: post)).1, true) ∧
    closedQ (run d (pre ++ (0, Op.close) :: post)).1 = some true := by
  obtain ⟨t, hs, h⟩ := C19_close_closes_subtree_once d hw pre post 0 hv
  rw [hpath_zero, sub_nil] at hs
  cases hs
  simpa only [hpath_zero, closeAt, closeAtG_nil, closedAt, closedAtG, sub_nil, close, closedQ] using h

/-- before any `Close` (on any handle) the outermost wrapper's `Closed()` answers false -/
theorem C19_outermost_closed_false_before (d : Desc) (hw : d.isWrapper = true) (ops : List NOp)
    (hv : validOps d ops = true) (hn : ∀ o ∈ ops, o.2 ≠ Op.close) :
    closedQ (run d ops).1 = some false := by
  obtain ⟨hi, hl⟩ := reach d ops fun _ => valid_mem hv
  obtain ⟨f, hf⟩ := List.exists_mem_of_ne_nil _ (deps_ne_nil hi ((le_isRes hl).trans (build_not_res d hw)))
  have := C19_closed_false_before d ops 0 (run d ops).1 (by rw [hpath_zero]; exact sub_nil _) f hf
    fun o ho hc => absurd hc (hn o ho)
  simpa only [hpath_zero, closedAt, closedAtG, sub_nil, closedQ] using this

/-- the outputs of a run are the per-op results of `stepAtG` on the states passed through (so the
    statements above, about `closeAt`/`closedAt` of reachable states, speak about what a caller sees) -/
theorem C19_trace_split (d : Desc) (pre post : List NOp) (o : NOp) :
    (run d (pre ++ o :: post)).2 =
      (run d pre).2 ++
        (stepAtG Gen.c19PairClosedAnd (run d pre).1 (hpath d o.1) o.2).2 ::
          (runPG Gen.c19PairClosedAnd
            (stepAtG Gen.c19PairClosedAnd (run d pre).1 (hpath d o.1) o.2).1 (resolve d post)).2 :=
  congrArg Prod.snd (runG_split Gen.c19PairClosedAnd d pre post o)

/-- a depth-4 composition with a failing resource -/
def exD : Desc :=
  .named .conn (.sim (.pair (.named .reader (.res 0 true true)) (.safe .writer (.safe .writer (.res 1 false false)))))

example : exD.isWrapper = true := rfl
-- handles: 0 Nc, 1 I, 2 P, 3 Nr, 4 R0, 5 Sw, 6 Sw (same object as 5), 7 R1
example : handles exD = [[], [false, false], [false, false, false, false],
    [false, false, false, false, false, false], [false, false, false, false, false, false, false, false],
    [false, false, false, false, true], [false, false, false, false, true],
    [false, false, false, false, true, false]] := by decide
example : validOps exD [(0, .closed), (5, .close), (6, .closed), (2, .closed), (3, .close), (2, .closed),
    (1, .closed), (0, .close), (0, .closed), (3, .close)] = true := by decide
example : validOps exD [(4, .close)] = false := by decide     -- bare resource: not a wrapper handle
example : (run exD [(0, .closed), (5, .close), (6, .closed), (2, .closed), (3, .close), (2, .closed),
    (1, .closed), (0, .close), (0, .closed), (3, .close)]).2
    = [.bool false, .ok, .bool true, .bool false, .err, .bool false, .bool false, .ok, .bool true, .ok] := by
  decide
example : counts (run exD [(5, .close), (3, .close), (0, .close), (3, .close)]).1 = [1, 1] := by decide
example : counts (run exD [(0, .closed), (0, .read), (0, .close), (0, .close), (0, .closed)]).1 = [1, 1] := by
  decide

/-- the scenario of the trial change kept as seeded/C19 (`Closed()` of a pair with `||` for `&&`): NamedStream over a
    pair whose reader is an already-safe SafeReader
    (handle 2, shared with the pair) that the caller closes through its own handle; then the pair
    and the outer wrapper are queried and closed.  Handles: 0 Ns, 1 P, 2 Sr, 3 R0, 4 R1. -/
def exSeed : Desc := .named .stream (.pair (.safe .reader (.res 0 false false)) (.res 1 false false))

example : handles exSeed = [[], [false, false], [false, false, false], [false, false, false, false],
    [false, false, true, false]] := by decide
example : validOps exSeed [(2, .close), (1, .closed), (0, .closed), (0, .close), (0, .closed), (1, .closed)] = true := by
  decide
-- the code as it is (`&&`): pair and outer wrapper answer false, the outer Close closes the writer
example : (run exSeed [(2, .close), (1, .closed), (0, .closed), (0, .close), (0, .closed), (1, .closed)]).2
    = [.ok, .bool false, .bool false, .ok, .bool true, .bool true] := by decide
example : counts (run exSeed [(2, .close), (1, .closed), (0, .closed), (0, .close)]).1 = [1, 1] := by decide
-- the `||` variant: pair reports closed at once, the outer Close skips it, the writer stays open
example : (runG false exSeed [(2, .close), (1, .closed), (0, .closed), (0, .close), (0, .closed), (1, .closed)]).2
    = [.ok, .bool true, .bool false, .ok, .bool true, .bool true] := by decide
example : counts (runG false exSeed [(2, .close), (1, .closed), (0, .closed), (0, .close), (0, .close)]).1 = [1, 0] := by
  decide
-- hypotheses of `C19_closed_false_before` are met in that scenario: the pair's writer half
-- (`[true]` below the pair) is touched by no Close
example : [true] ∈ deps ((sub (run exSeed [(2, .close)]).1 (hpath exSeed 1)).getD (.deleg (.res 0 false false 0))) := by
  decide
example : ∀ o ∈ [((2 : Nat), Op.close)], o.2 = Op.close →
    pre (hpath exSeed o.1) (hpath exSeed 1 ++ [true]) = false := by decide

/-- Observation outside the property (the same *object* on both sides of a pair is closed twice):
    kept as a witness so the side condition "distinct resources" is visible. -/
example : counts (run (.pair (.res 0 false false) (.res 0 false false)) [(0, .close)]).1 = [1, 1] := by
  decide

end SA.Wrappers

#print axioms SA.Wrappers.C19_never_twice
#print axioms SA.Wrappers.C19_close_closes_subtree_once
#print axioms SA.Wrappers.C19_closed_implies_closed
#print axioms SA.Wrappers.C19_witness_pair_or
#print axioms SA.Wrappers.C19_closed_false_before
#print axioms SA.Wrappers.C19_status_objects_exist
#print axioms SA.Wrappers.C19_no_close_no_effect
#print axioms SA.Wrappers.C19_outermost_close_once
#print axioms SA.Wrappers.C19_outermost_closed_false_before
#print axioms SA.Wrappers.C19_trace_split

namespace SA.PkgState
/-- **no_hidden_process_state**: the models of this property are functions of their arguments and of the objects they are
    handed; the packages they model keep no package-level variables besides these (regenerated inventory: error
    sentinels, tables, compiled patterns, the two session time-outs).  A new package-level variable — a counter, a cache, a
    scratch buffer, a shared map, a registry — would make later calls depend on earlier ones, or concurrent calls on each
    other, outside anything a per-call comparison of model and code can see. -/
theorem C19_no_hidden_process_state :
    Gen.pkgVarNames_streams = ["Localhost"] := rfl
end SA.PkgState

#print axioms SA.PkgState.C19_no_hidden_process_state

namespace SA.Wrappers
/-- the delegating wrappers (`deleg` in the model: Named*, SimulatedConnection, StreamWrappedConnection, and the
    multiplexer-stream wrapper) declare no `Close` / `Closed` of their own (regenerated): both are the embedded Safe*
    value's, as `closeG` / `closedQG` on `deleg` say — in particular a stream-wrapped connection's status does not
    depend on its underlying net.Conn, which serves addresses and deadlines only. -/
theorem C19_delegating_wrappers_have_no_own_close : Gen.c19DelegOwnMethods = [] := rfl
end SA.Wrappers

#print axioms SA.Wrappers.C19_delegating_wrappers_have_no_own_close
