/-
  C13 — DNS tunnel sessions are isolated from each other and from spoofers.

  All statements are about SA.Model.DnsServer / SA.Model.DnsSessions (the fixed code: closeConnection compares object
  identity, the second pruning loop clears the retired slot).  The pruning task is *interpreted* from
  `SA.Gen.expiryLoops`, which is regenerated from the source on every run; `C13_expiry_loops_safe` re-checks the
  extracted assignment lists, and `C13_witness_old_expiry` shows that the lists of the unfixed code violate the
  statement.
-/
import SA.Proofs.DnsServer
import SA.Proofs.DnsDispatch
import SA.Proofs.DnsBatch
import SA.Gen.C13Locks
import SA.Gen.PkgVars

namespace SA.Props.C13
open SA.Go SA.Go.Res SA.DnsServer

/-! ## reachable states -/

/-- Every state reachable from a fresh listener by any history of messages (any name, type, source address, any codec
    behaviour), application-side Close/Write calls, clock advances and runs of the pruning task satisfies the invariant:
    both tables keep their size and a session stored in slot i has id i. -/
theorem C13_reachable_invariant (cd : Codec) (hT : cd.Total) (dom : List Nat) (ops : List Op) : Inv (run cd dom Srv.init ops) :=
  run_inv cd hT dom ops init_inv

/-- **ids distinct**: in every reachable state two live slots never hold the same session, and the session in live
    slot i carries id i. -/
theorem C13_ids_distinct (cd : Codec) (hT : cd.Total) (dom : List Nat) (ops : List Op) (i j sid : Nat)
    (hi : (run cd dom Srv.init ops).live[i]? = some (some sid))
    (hj : (run cd dom Srv.init ops).live[j]? = some (some sid)) :
    i = j ∧ ((run cd dom Srv.init ops).sess sid).uid = i := by
  have hI := C13_reachable_invariant cd hT dom ops
  have a := hI.liveOk i sid hi
  have b := hI.liveOk j sid hj
  exact ⟨a.2.symm.trans b.2, a.2⟩

/-! ## a successful open takes a free identifier — also when the address is already known

  `C13_ids_distinct` speaks about slots.  The statements below speak about what a client is TOLD: the
  identifier in a successful version answer.  They hold for every state and every source address, in
  particular for an address that already owns live sessions (two tunnel clients behind one forwarder,
  retransmitted version requests). -/

/-- regenerated fact: `newUser` has no return path that hands out a session which was in `connections`
    already; the only session it returns is the one it has just created in an empty slot and sent to `accept`
    (the model's `newUser`).  Fails to compile when such a path appears. -/
theorem C13_newUser_only_fresh : SA.Gen.newUserReturnsExisting = false := rfl

/-- **every successful open returns an identifier that was free immediately before, and a new session**:
    if the server answers a message with `v:OK:uid` then, in the state the message met, no live session held
    `uid` (so `uid` differs from the identifier of every live session, whatever their addresses); afterwards
    live slot `uid` holds a session object that did not exist before (heap index = old heap size), owned by
    the sender, with identifier `uid` and empty queues; every other live slot is as it was. -/
theorem C13_open_returns_free_id (cd : Codec) (dom : List Nat) (σ σ' : Srv) (m : Msg) (uid : Nat)
    (h : onMessage cd dom σ m = ok (σ', .version uid)) :
    σ.live[uid]? = some none ∧
    (∀ j sid, σ.live[j]? = some (some sid) → j ≠ uid) ∧
    σ'.live[uid]? = some (some σ.heap.length) ∧
    σ'.heap.length = σ.heap.length + 1 ∧
    (σ'.sess σ.heap.length).uid = uid ∧ (σ'.sess σ.heap.length).owner = m.addr ∧
    (σ'.sess σ.heap.length).inq = {} ∧ (σ'.sess σ.heap.length).outq = {} ∧
    (∀ j, j ≠ uid → σ'.live[j]? = σ.live[j]?) := by
  have o := onMessage_opens h
  refine ⟨o.free, fun j sid hj e => ?_, o.slot, o.heapLen, by rw [o.sess], by rw [o.sess], by rw [o.sess], by rw [o.sess],
    o.others⟩
  rw [e, o.free] at hj
  cases hj

/-- **two opens, two sessions** — also from one address: two successful version requests in a row (from any
    addresses, equal or not) are answered with different identifiers, and afterwards both identifiers are live
    with two different session objects. -/
theorem C13_two_opens_two_sessions (cd : Codec) (dom : List Nat) (σ σ1 σ2 : Srv) (m1 m2 : Msg) (u1 u2 : Nat)
    (h1 : onMessage cd dom σ m1 = ok (σ1, .version u1)) (h2 : onMessage cd dom σ1 m2 = ok (σ2, .version u2)) :
    u1 ≠ u2 ∧ σ2.live[u1]? = some (some σ.heap.length) ∧ σ2.live[u2]? = some (some (σ.heap.length + 1)) := by
  have a := onMessage_opens h1
  have b := onMessage_opens h2
  -- the second open found slot `u2` free, and `u1` is not: the first open had just filled it
  have hne : u1 ≠ u2 := fun e => by have := b.free; rw [← e, a.slot] at this; cases this
  exact ⟨hne, (b.others u1 hne).trans a.slot, by rw [b.slot, a.heapLen]⟩

/-- an allocation that reuses sessions (written out; not today's code): before looking for a free slot, hand out a
    live session of the same address that has not moved payload yet -/
def newUserReusing (σ : Srv) (addr : Nat) : Srv × Option Nat :=
  match σ.live.filterMap id |>.find? (fun sid => (σ.sess sid).owner = addr ∧ (σ.sess sid).inq.next = 0 ∧ (σ.sess sid).outq.next = 0) with
  | some sid => (σ.modify sid (fun s => { s with last := σ.now }), some (σ.sess sid).uid)
  | none => newUser σ addr

/-- kernel-checked: with that allocation two opens from one address get the same identifier and share one session
    object, while today's `newUser` gives them 0 and 1 and two objects -/
theorem C13_witness_shared_address :
    (newUserReusing (newUserReusing Srv.init 7).1 7).2 = some 0 ∧ (newUserReusing Srv.init 7).2 = some 0 ∧
    (newUserReusing (newUserReusing Srv.init 7).1 7).1.heap.length = 1 ∧
    (newUser (newUser Srv.init 7).1 7).2 = some 1 ∧ (newUser (newUser Srv.init 7).1 7).1.heap.length = 2 := by
  decide +kernel

/-! ## concurrent sessions: operations on the session tables running at the same moment

The real handlers run on one goroutine per datagram, `Close()` on the application's goroutines, the pruning task on
its own.  The sequential model speaks about that through two facts: (1) the operations that WRITE the session tables
are atomic steps — each of them does all its table accesses inside one critical section of `usersLock`
(`C13_table_ops_atomic`, regenerated from the source) —, so a concurrent batch is the sequential run of its steps in
some order; (2) for a batch of opens the order does not matter (`C13_batch_opens_perm`) and the identifiers answered
are pairwise distinct, were free, and are the lowest free slots (`C13_batch_opens_ids`).  The `dnssess` component
delivers such batches to the real listener from one goroutine per op and compares with the listed order. -/

/-- **the table operations are atomic steps** (regenerated lock structure, `go/extract/x_c13_locks.go`): on every
    control-flow path of `newUser`, of `closeConnection` and of the pruning task, every access to `connections` /
    `oldConnections` happens while `usersLock` is held, all accesses of the path lie in ONE critical section (no `Unlock`
    between the first and the last of them — in `newUser`: between the nil test of the scan and the store into
    `s.connections[i]`), and the lock is released at the end (`defer` or explicit).  The paths that matter exist: `newUser`
    has a path that reads the live table and then stores into it, `closeConnection` one that stores into both tables, the
    pruning task paths that store.  Fails to compile when the source changes the lock structure. -/
theorem C13_table_ops_atomic :
    (SA.Gen.lockPaths_newUser.all pathAtomic && SA.Gen.lockPaths_newUser.any findsThenStores &&
     SA.Gen.lockPaths_closeConnection.all pathAtomic &&
     SA.Gen.lockPaths_closeConnection.any (fun p => p.contains 4 && p.contains 6) &&
     SA.Gen.lockPaths_expiry.all pathAtomic && SA.Gen.lockPaths_expiry.any (fun p => p.contains 4) &&
     SA.Gen.lockPaths_expiry.any (fun p => p.contains 6)) = true := by decide

/-- **order-independence of a batch of opens**: for every state and every two lists of clients that are permutations
    of each other, serving the opens in either order answers the same identifiers (position by position: the k-th open
    served gets the k-th lowest free slot, whoever it is) and leaves the same server state up to the owner field of the
    session objects — the orders differ only in WHICH client is told which identifier. -/
theorem C13_batch_opens_perm (σ : Srv) (as bs : List Nat) (hp : as.Perm bs) :
    (opens σ as).2 = (opens σ bs).2 ∧ (opens σ as).1.anon = (opens σ bs).1.anon ∧
    (opens σ as).1.live = (opens σ bs).1.live ∧ (opens σ as).1.retired = (opens σ bs).1.retired := by
  obtain ⟨h1, h2⟩ := opens_anon as bs σ σ rfl hp.length_eq
  -- `anon` blanks owner fields in the heap: the tables of the two states are equal as they stand
  exact ⟨h2, h1, (congrArg Srv.live h1 :), (congrArg Srv.retired h1 :)⟩

/-- **the identifiers answered in one batch**: pairwise distinct; each was free before the batch; after the batch no
    slot below an answered identifier is free (the lowest free slots); and the k-th client, told identifier i, owns
    the session object in live slot i — an object with identifier i that did not exist before the batch. -/
theorem C13_batch_opens_ids (σ : Srv) (as : List Nat) :
    ((opens σ as).2.filterMap id).Nodup ∧
    (∀ i, some i ∈ (opens σ as).2 → σ.live[i]? = some none) ∧
    (∀ i, some i ∈ (opens σ as).2 → ∀ j, j < i → ∃ s, (opens σ as).1.live[j]? = some (some s)) ∧
    (∀ (k i a : Nat), (opens σ as).2[k]? = some (some i) → as[k]? = some a →
      ∃ sid, σ.heap.length ≤ sid ∧ (opens σ as).1.live[i]? = some (some sid) ∧
        ((opens σ as).1.sess sid).owner = a ∧ ((opens σ as).1.sess sid).uid = i) :=
  ⟨opens_ids_nodup as σ, opens_ids_free as σ, opens_lowest as σ, opens_owner as σ⟩

/-- sessions that exist before a batch of opens are not touched by it: same object, same slot -/
theorem C13_batch_opens_frame (σ : Srv) (as : List Nat) (j sid : Nat) (h : σ.live[j]? = some (some sid)) (hs : sid < σ.heap.length) :
    (opens σ as).1.live[j]? = some (some sid) ∧ (opens σ as).1.sess sid = σ.sess sid :=
  ⟨(opens_frame as σ).liveKeep j sid trivial h, (opens_frame as σ).sessEq sid hs trivial⟩

/-- kernel-checked: **with a non-atomic find / store two opens are told the same identifier**.  The lock
    structure `Lock; scan; Unlock; store` (not today's code) is rejected by `pathAtomic`; and in the model with
    `newUser` split into its two halves (`newUser_eq_find_store`), the schedule "client 7 scans, client 8 scans, 7 stores, 8 stores" tells both
    identifier 0, leaves ONE live session (8's), and 7's session object in no slot at all — while the atomic steps give
    0 and 1. -/
theorem C13_witness_nonatomic_open :
    pathAtomic [0, 3, 2, 4] = false ∧ pathAtomic [0, 1, 3, 4] = true ∧
    findSlot Srv.init = some 0 ∧ findSlot Srv.init = some 0 ∧
    (storeSlot (storeSlot Srv.init 0 7) 0 8).live[0]? = some (some 1) ∧
    ((storeSlot (storeSlot Srv.init 0 7) 0 8).live.filter Option.isSome).length = 1 ∧
    ((storeSlot (storeSlot Srv.init 0 7) 0 8).sess 0).owner = 7 ∧
    (opens Srv.init [7, 8]).2 = [some 0, some 1] := by
  decide +kernel

/-! ## spoofed and stale identifiers -/

/-- the session identifier a message carries: the request (tunnel part of the name) selects a command that needs a
    user id and has a request form, and its header decodes -/
def msgUid (dom : List Nat) (m : Msg) : Option Nat :=
  match stripDomain m.name dom with
  | .ok request =>
    match findCmd SA.Gen.commandTable request with
    | .ok (some (_, true, true, _)) =>
      match decodeHeader true request with
      | .ok (some (_, uid)) => some uid
      | _ => none
    | _ => none
  | .panic => none

theorem msgUid_some {dom : List Nat} {m : Msg} {i : Nat} (h : msgUid dom m = some i) :
    ∃ code request rest, route dom m = .cmd code true request rest i := by
  unfold msgUid at h
  split at h
  · next hs =>
    split at h
    · next hc =>
      split at h
      · next hh => cases h; exact ⟨_, _, _, route_of hs hc hh⟩
      · cases h
    · cases h
  · cases h

theorem vErrName_badIp : vErrName .badIp = SA.Gen.errBadIp := rfl

/-- **spoof rejected**: a message carrying the identifier of a live session, sent from an address that is not the
    session's owner, changes *nothing* in the server state (no read, no acknowledgement, no option change, no refresh of
    the last-contact time, no close) and is answered with BADIP (or BADCODEC when its body does not decode with the
    victim's codec, or dropped when the answer cannot be wrapped) — never with data.  `dispatch_foreign`: BADIP is no
    short-cut, the request is decoded and the handler refuses (`handleReq_refused`). -/
theorem C13_spoof_rejected (cd : Codec) (hT : cd.Total) (dom : List Nat) (σ : Srv) (m : Msg) (i sid : Nat)
    (hid : msgUid dom m = some i) (hlive : σ.live[i]? = some (some sid)) (hforeign : (σ.sess sid).owner ≠ m.addr) :
    ∃ a, onMessage cd dom σ m = ok (σ, a) ∧
      (a = .drop ∨ a = .err 101 SA.Gen.errBadCodec ∨ ∃ c, a = .err c SA.Gen.errBadIp) := by
  obtain ⟨code, request, rest, hr⟩ := msgUid_some hid
  obtain ⟨oq, hd⟩ := decodeRequest_no_panic hT code (σ.sess sid).up (route_cmd hr).header
  rw [onMessage_eq, hr]
  simp only [dispatch_foreign hlive hforeign, hd, Res.bind_ok]
  cases oq with
  | none => exact ⟨_, rfl, (errAns_cases ..).imp_right .inl⟩
  | some q =>
    obtain ⟨c, code', he⟩ := handleReq_refused (cd := cd) (dl := dom.length) (uid_of_needsUser hr hd)
      (validate_foreign hlive hforeign) (by decide)
    exact ⟨_, he, (errAns_cases ..).imp_right fun h => .inr ⟨c, h⟩⟩

/-- **closed id inert**: while an identifier has no live session (after `close`, until newUser hands it out again),
    every message carrying it changes nothing in the server state and is answered BADCONN (to the retired session's
    owner) / BADUSER (to anybody else) or dropped — it can neither inject nor extract data. -/
theorem C13_closed_id_inert (cd : Codec) (dom : List Nat) (σ : Srv) (m : Msg) (i : Nat)
    (hid : msgUid dom m = some i) (hfree : σ.live[i]? = some none) (hlen : i < σ.retired.length) :
    ∃ a, onMessage cd dom σ m = ok (σ, a) ∧
      (a = .drop ∨ a = .err 101 SA.Gen.errBadUser ∨ a = .err 101 SA.Gen.errBadConn) := by
  obtain ⟨code, request, rest, hr⟩ := msgUid_some hid
  rw [onMessage_eq, hr]
  rcases dispatch_free (cd := cd) (dl := dom.length) (m := m) hfree hlen code request with hd | hd
  · exact ⟨_, hd, (errAns_cases ..).imp_right .inl⟩
  · exact ⟨_, hd, (errAns_cases ..).imp_right .inr⟩

/-! ## a re-issued identifier belongs to its new session

  An identifier is handed out again as soon as its slot in the live table is free, while the retired table may
  still remember the session that held it before (closed by its client, closed by the application, expired).  What
  the retired table remembers must not matter to the new session: the live table decides. -/

/-- regenerated fact: `validateAndGetUser` reads `s.connections[userId]` first and looks at `s.oldConnections` only
    under `if user == nil` (the model's `validate`).  Fails to compile when the retired table is consulted
    outside that branch. -/
theorem C13_validate_live_first : SA.Gen.validateLiveTableFirst = true := rfl

/-- **the owner of a live session is never refused**: a message carrying identifier `i` from the address that owns
    the live session in slot `i` is never answered BADCONN, BADUSER or BADIP — in EVERY state, in particular
    whatever the retired table holds under `i` (an earlier session of the same address that was closed or expired,
    of another address, nothing).  So no close or expiry of an earlier holder of the identifier can make the live
    session unusable.  `dispatch_owner`, then `owner_ans`. -/
theorem C13_live_session_accepts_owner (cd : Codec) (hT : cd.Total) (dom : List Nat) (σ σ' : Srv) (m : Msg) (i sid : Nat) (a : Ans)
    (hid : msgUid dom m = some i) (hlive : σ.live[i]? = some (some sid)) (hown : (σ.sess sid).owner = m.addr)
    (h : onMessage cd dom σ m = ok (σ', a)) : ¬ Refusal a := by
  obtain ⟨code, request, rest, hr⟩ := msgUid_some hid
  rw [onMessage_eq, hr] at h
  simp only [dispatch_owner hlive hown] at h
  cases hd : decodeRequest cd code true true (σ.sess sid).up request with
  | panic => simp [hd] at h
  | ok oq =>
    simp only [hd, Res.bind_ok] at h
    cases oq with
    | none => cases h; exact not_refusal (finish_alien rfl)
    | some q => exact not_refusal (owner_ans (uid_of_needsUser hr hd) (validate_touch hlive hown) h)

/-- validateAndGetUser with the two look-ups the other way round (not today's code): the retired table is consulted first -/
def validateRetiredFirst (σ : Srv) (uid addr : Nat) : Res (Srv × Option Nat × VErr) := do
  let r ← idxOpt σ.retired uid
  match r with
  | some rs => if (σ.sess rs).owner = addr then pure (σ, some rs, .badConn) else validate σ uid addr
  | none => validate σ uid addr

/-- identifier 1 after close and re-issue to the same address (7): object 1 held it and is retired, object 2 holds
    it now; object 0 (address 3) keeps identifier 0 -/
def reissuedState : Srv :=
  { live := [some 0, some 2], retired := [none, some 1],
    heap := [{ uid := 0, owner := 3, last := 0 }, { uid := 1, owner := 7, last := 1, closed := true }, { uid := 1, owner := 7, last := 2 }],
    now := 3 }

/-- **witness**: with the retired table consulted first, the owner of the re-issued identifier is told BADCONN (and
    handed the OLD object) although its session is live; today's `validate` accepts it and hands out the live
    object.  Kernel-checked. -/
theorem C13_witness_retired_first :
    validateRetiredFirst reissuedState 1 7 = ok (reissuedState, some 1, .badConn) ∧
    validate reissuedState 1 7 = ok (touch reissuedState 2, some 2, .ok) := by decide

/-! ## isolation from other addresses and other sessions -/

/-- **foreign messages preserve**: whatever a message from address A contains (any command, any identifier, any
    sequence / acknowledgement numbers, any body), every session owned by another address is byte-for-byte unchanged —
    queues, codecs, fragment size, closed flag, last-contact time — and keeps its live slot.  The handler also does not
    panic and re-establishes the invariant. -/
theorem C13_foreign_message_preserves (cd : Codec) (hT : cd.Total) (dom : List Nat) (σ : Srv) (hI : Inv σ) (m : Msg) (sid : Nat)
    (hs : sid < σ.heap.length) (hforeign : (σ.sess sid).owner ≠ m.addr) :
    ∃ σ' a, onMessage cd dom σ m = ok (σ', a) ∧ Inv σ' ∧ σ'.sess sid = σ.sess sid ∧
      ∀ i : Nat, σ.live[i]? = some (some sid) → σ'.live[i]? = some (some sid) := by
  obtain ⟨σ', a, h, hI', hF⟩ := onMessage_good cd hT dom hI m
  exact ⟨σ', a, h, hI', hF.sessEq sid hs hforeign, fun i => hF.liveKeep i sid hforeign⟩

/-- **closing another session is harmless**: Close() of the session object `other` (even one retired long ago, even
    one whose id and owner address were re-used by the session `sid`) leaves every other session object unchanged and
    in its live slot. -/
theorem C13_foreign_close_harmless (σ σ' : Srv) (other sid : Nat) (hne : sid ≠ other)
    (h : appClose σ other = ok σ') :
    σ'.sess sid = σ.sess sid ∧ ∀ i : Nat, σ.live[i]? = some (some sid) → σ'.live[i]? = some (some sid) := by
  rcases appClose_cases h with rfl | ⟨hl, rfl⟩
  · exact ⟨rfl, fun _ h => h⟩
  · exact ⟨sess_retire σ other sid hne, fun i => (retire_frame hl).liveKeep i sid hne⟩

/-! ## expiry -/

/-- the regenerated assignment lists of the two pruning loops are safe: the loop over the live table uses (at least)
    ConnectionTimeout, the loop over the retired table never assigns to the live table -/
theorem C13_expiry_loops_safe : safeLoops SA.Gen.connectionTimeout SA.Gen.expiryLoops = true := by decide

/-- **unrelated expiry harmless**: after *any* history of opens, closes, re-opens, clock advances and earlier runs of
    the pruning task (so in particular with its identifier re-used from a retired session of any age), a live session
    whose owner has been heard within ConnectionTimeout is still live, in the same slot and unchanged, after a run of
    the pruning task. -/
theorem C13_unrelated_expiry_harmless (cd : Codec) (hT : cd.Total) (dom : List Nat) (ops : List Op) (i sid : Nat)
    (hlive : (run cd dom Srv.init ops).live[i]? = some (some sid))
    (hfresh : (run cd dom Srv.init ops).now ≤ ((run cd dom Srv.init ops).sess sid).last + SA.Gen.connectionTimeout) :
    (expire (run cd dom Srv.init ops)).live[i]? = some (some sid) ∧
    (expire (run cd dom Srv.init ops)).sess sid = (run cd dom Srv.init ops).sess sid := by
  have hK := expireWith_keeps (C13_reachable_invariant cd hT dom ops) SA.Gen.expiryLoops C13_expiry_loops_safe
  exact ⟨(hK.live i ⟨sid, hlive, hfresh⟩).trans hlive, hK.sess sid⟩

/-- the assignment lists of the unfixed pruning task (second loop: `connections[id] = nil; oldConnections[id] = u`) -/
def oldExpiryLoops : List (Nat × Nat × List (Nat × Bool)) :=
  [(0, 300, [(0, false), (1, true)]), (1, 1800, [(0, false), (1, true)])]

/-- the situation of the defect on a one-slot table: session 0 (owner 1) was retired at time 0 with id 0; session 1
    (owner 2) re-used id 0 and was heard at time 1990; now = 2000 -/
def witnessState : Srv :=
  { live := [some 1], retired := [some 0],
    heap := [{ uid := 0, owner := 1, last := 0, closed := true }, { uid := 0, owner := 2, last := 1990 }], now := 2000 }

/-- **witness**: with the assignment lists of the unfixed code the fresh live session is removed (and the stale retired
    entry stays, so this repeats on every run); the old lists are rejected by `safeLoops`; the current lists keep it. -/
theorem C13_witness_old_expiry :
    (expireWith oldExpiryLoops witnessState).live = [none] ∧
    (expireWith oldExpiryLoops witnessState).retired = [some 0] ∧
    safeLoops SA.Gen.connectionTimeout oldExpiryLoops = false ∧
    (expireWith SA.Gen.expiryLoops witnessState).live = [some 1] := by decide

/-- a packet request `cabc00…` for id 0 under the domain "t.co" -/
def sampleName : List Nat := [99, 97, 98, 99, 48, 48, 97, 97, 97, 97, 97, 46, 116, 46, 99, 111, 46]
def sampleDom : List Nat := [116, 46, 99, 111]

example : msgUid sampleDom { addr := 2, qtype := 10, name := sampleName } = some 0 := by decide

/-- a version request `v7wlaaiaaaa.t.co.` (protocol version in the body `aaiaaaa`, Base32 → 00 10 00 00) and the
    codec oracle for it -/
def sampleOpen : List Nat := [118, 55, 119, 108, 97, 97, 105, 97, 97, 97, 97, 46, 116, 46, 99, 111, 46]
def sampleCodec : Codec := oracleCodec [(84, [97, 97, 105, 97, 97, 97, 97], some [0, 16, 0, 0])]

def ansOf : Res (Srv × Ans) → Option Ans
  | .ok (_, a) => some a
  | .panic => none
def stateOf : Res (Srv × Ans) → Srv
  | .ok (σ, _) => σ
  | .panic => Srv.init

-- the hypotheses of `C13_open_returns_free_id` / `C13_two_opens_two_sessions` are met by two version requests from ONE
-- address against a fresh listener: identifiers 0 and 1
example :
    ansOf (onMessage sampleCodec sampleDom Srv.init { addr := 1, qtype := 10, name := sampleOpen }) = some (.version 0) ∧
    ansOf (onMessage sampleCodec sampleDom
      (stateOf (onMessage sampleCodec sampleDom Srv.init { addr := 1, qtype := 10, name := sampleOpen }))
      { addr := 1, qtype := 10, name := sampleOpen }) = some (.version 1) := by
  decide +kernel

/-- a packet request `cabc01…` for id 1 -/
def sampleName1 : List Nat := [99, 97, 98, 99, 48, 49, 97, 97, 97, 97, 97, 46, 116, 46, 99, 111, 46]

-- the hypotheses of `C13_live_session_accepts_owner` are met in the re-issued state (the retired table remembers an
-- earlier session of the SAME address under identifier 1), by that request from address 7
example : msgUid sampleDom { addr := 7, qtype := 10, name := sampleName1 } = some 1 ∧
    reissuedState.live[1]? = some (some 2) ∧ (reissuedState.sess 2).owner = 7 ∧
    reissuedState.retired[1]? = some (some 1) ∧ (reissuedState.sess 1).owner = 7 := by decide

/-- a batch on a table with a hole: identifiers 1 and 3 are free below the live 2 and 4; three clients get 1, 3, 5 in
    every order -/
def holedState : Srv := (run sampleCodec sampleDom (opens Srv.init [1, 1, 1, 1, 1]).1 [.close 1, .close 3])
example : (opens holedState [7, 8, 9]).2 = [some 1, some 3, some 5] ∧ (opens holedState [9, 7, 8]).2 = [some 1, some 3, some 5] ∧
    (opens holedState [7, 8, 9]).1.anon = (opens holedState [9, 7, 8]).1.anon ∧
    ((opens holedState [7, 8, 9]).1.sess 6).owner = 8 ∧ ((opens holedState [9, 7, 8]).1.sess 6).owner = 7 := by
  decide +kernel

example : safeLoops 300 [(1, 1800, [(1, false)])] = true ∧ safeLoops 300 [(1, 1800, [(0, false)])] = false := by decide

end SA.Props.C13

#print axioms SA.Props.C13.C13_reachable_invariant
#print axioms SA.Props.C13.C13_ids_distinct
#print axioms SA.Props.C13.C13_newUser_only_fresh
#print axioms SA.Props.C13.C13_open_returns_free_id
#print axioms SA.Props.C13.C13_two_opens_two_sessions
#print axioms SA.Props.C13.C13_witness_shared_address
#print axioms SA.Props.C13.C13_table_ops_atomic
#print axioms SA.Props.C13.C13_batch_opens_perm
#print axioms SA.Props.C13.C13_batch_opens_ids
#print axioms SA.Props.C13.C13_batch_opens_frame
#print axioms SA.Props.C13.C13_witness_nonatomic_open
#print axioms SA.Props.C13.C13_spoof_rejected
#print axioms SA.Props.C13.C13_closed_id_inert
#print axioms SA.Props.C13.C13_validate_live_first
#print axioms SA.Props.C13.C13_live_session_accepts_owner
#print axioms SA.Props.C13.C13_witness_retired_first
#print axioms SA.Props.C13.C13_foreign_message_preserves
#print axioms SA.Props.C13.C13_foreign_close_harmless
#print axioms SA.Props.C13.C13_expiry_loops_safe
#print axioms SA.Props.C13.C13_unrelated_expiry_harmless
#print axioms SA.Props.C13.C13_witness_old_expiry

namespace SA.PkgState
/-- **no_hidden_process_state**: the models of this property are functions of their arguments and of the objects they are
    handed; the packages they model keep no package-level variables besides these (regenerated inventory: error
    sentinels, tables, compiled patterns, the two session time-outs).  A new package-level variable — a counter, a cache, a
    scratch buffer, a shared map, a registry — would make later calls depend on earlier ones, or concurrent calls on each
    other, outside anything a per-call comparison of model and code can see. -/
theorem C13_no_hidden_process_state :
    Gen.pkgVarNames_dns = ["ConnectionTimeout", "ErrConnectionFailed", "ErrHandshakeNotCompleted", "OldConnectionTimeout"] := rfl
end SA.PkgState

#print axioms SA.PkgState.C13_no_hidden_process_state
