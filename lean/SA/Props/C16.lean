/-
  C16 — Client connection policy: direct first, ordered failover, reuse, reconnect.

  Theorems over SA.Model.Policy (the state machine of HandleConnection / Upstreams.Connect with the
  environment events cut, restart, Shutdown).  The general statements are parameterised by `Facts`
  (what the code does where the repairs went in); the `C16_…` statements instantiate them at
  `Facts.current`, whose fields are regenerated from the Go source — reverting a repair flips a
  field and breaks its `gen_…` lemma (collected in `C16_current_facts`), and with it every theorem that cites it.

  What a Connect does is said by three statements, which between them cover every state in which the mutex is
  not held for ever (`blocked_forever`, SA.Proofs.Policy): `C16_direct_first` (a usable forward address), `C16_reuse` (the stored
  session intact) and `C16_ordered_failover_general` (anything else: `open` in list order); fail-over, reconnect and
  the statements about verifying clients are instances of the last.  What holds under every interleaving of
  concurrent Connects is the invariant `run_inv` (SA.Proofs.Policy).  The witnesses for the tree before the repairs
  are evaluations.

  Partial: real time is not modelled beyond the per-attempt bounds (`attemptBound`), the dial
  timeout is the operating system's; the multiplexer's behaviour on a cut carrier (OpenStream fails
  once the loss has been noticed) and on a silent loss (keep-alive) is its contract; concurrent
  Connects are covered for the invariants (all interleavings) while their outcomes are compared with
  the real code on a sequential schedule.
-/
import SA.Proofs.Policy
import SA.Proofs.Run
import SA.Gen.Locks
import SA.Gen.C17
import SA.Model.KeepAlive
import SA.Gen.PkgVars
namespace SA.Policy

theorem gen_discardOnLoss : Facts.current.discardOnLoss = true := rfl
theorem gen_retry : Facts.current.retry = true := rfl
theorem gen_deadline : Facts.current.deadline.isSome = true := rfl
theorem gen_closesFailed : Facts.current.closesFailed = true := rfl
theorem gen_closesRejected : Facts.current.closesRejected = true := rfl

/-- the repairs are in place: lost sessions are discarded and replaced, the handshake has a deadline,
    failed and rejected connections are closed -/
theorem C16_current_facts :
    Facts.current.discardOnLoss = true ∧ Facts.current.retry = true ∧ Facts.current.deadline.isSome = true ∧
    Facts.current.closesFailed = true ∧ Facts.current.closesRejected = true :=
  ⟨gen_discardOnLoss, gen_retry, gen_deadline, gen_closesFailed, gen_closesRejected⟩

/-- the shapes the model takes for granted are those of the source -/
theorem C16_shape :
    Gen.c16DirectGuard = true ∧ Gen.c16DirectFirst = true ∧ Gen.c16OpenInListOrder = true ∧ Gen.c16OpenUnderMutex = true ∧
    Gen.c16LivenessChecksFlag = true ∧ Gen.c16SelectFailureKeepsSession = true ∧ Gen.c16DiscardIdentity = true ∧
    Gen.c16DiscardCloses = true ∧ Gen.c16KindsGuardSecure = true ∧ Gen.c16DeadlineCleared = true ∧
    Gen.c16TlsDialBounded = true := ⟨rfl, rfl, rfl, rfl, rfl, rfl, rfl, rfl, rfl, rfl, rfl⟩

/-- **direct_first**: a usable forward address serves the local connection whatever the state of the
    upstreams (even with the mutex held for ever), and nothing about the upstreams changes: no dial,
    no physical connection, no stored session touched. -/
theorem C16_direct_first (F : Facts) (c : Cfg) (sh : Sh) (known : Bool) (h : directUsable c.fwd = true) :
    connect F c sh known = (sh, .direct, none) := by
  rw [connect, if_pos h]

/-- … and only a usable forward address does: otherwise the outcome is never `direct` -/
theorem C16_direct_only_if_usable (F : Facts) (c : Cfg) (sh : Sh) (known : Bool) (h : directUsable c.fwd = false) :
    (connect F c sh known).2.1 ≠ .direct := by
  rw [connect_eq_soloRun F h]
  split
  · -- the thread's run ends `.done o car`: no step of `Connect` ends that way with `o = .direct`
    rename_i o car heq
    intro (ho : o = .direct)
    exact soloRun_never_direct F c solo sh (.start known 0) (fun _ => nofun) car (by rw [heq, ho])
  · nofun

/-- one round of Connect from a state in which a new physical connection is needed -/
theorem round_fresh (F : Facts) (c : Cfg) (sh : Sh) (a : Nat) (ks : List TK)
    (hd : F.deadline.isSome = true) (hb : sh.blocked = false) (hn : needOpen sh = true) :
    match firstUsable c.mustSecure sh.phase c.ups with
    | some j => ∃ sh' id, soloRun F c sh (.start true a) (.enter :: .stream :: ks) = (sh', .done (.up j) (some id))
        ∧ sh'.dials = sh.dials ++ List.range (j + 1) ∧ sh'.blocked = false ∧ sh'.stored = some id
        ∧ sh'.conns[id]? = some { up := j, cut := false, closed := false }
    | none => ∃ sh', soloRun F c sh (.start true a) (.enter :: .stream :: ks) = (sh', .done .fail none)
        ∧ sh'.dials = sh.dials ++ List.range c.ups.length ∧ sh'.blocked = false ∧ sh'.stored = none := by
  -- enter: `open` stores the first usable upstream, or nothing; stream: the fresh connection is alive
  obtain ⟨L, -, he⟩ := tEnter_open F c sh true a hd hb hn
  split <;> rename_i hfu <;> rw [hfu] at he <;> dsimp only at he
  · rename_i j
    refine ⟨{ sh with conns := sh.conns ++ L ++ [{ up := j, cut := false, closed := false }],
                      dials := sh.dials ++ List.range (j + 1), stored := some (sh.conns ++ L).length },
      (sh.conns ++ L).length, ?_, rfl, hb, rfl, by simp⟩
    rw [soloRun_enter he, soloRun_stream (tStream_alive F true a (p := ⟨j, false, false⟩) ?_ rfl rfl), soloRun_done]
    · rfl
    · simp
  · exact ⟨{ sh with conns := sh.conns ++ L, dials := sh.dials ++ List.range c.ups.length, stored := none },
      by rw [soloRun_enter he, soloRun_done], rfl, hb, rfl⟩

/-- **ordered_failover**: when a new physical connection is needed (none stored, or the stored one was
    closed — or, with lost sessions discarded and one more round, the stored session's carrier cut)
    the upstreams are dialled in list order up to the first one that completes a handshake
    meeting the security requirement; that one serves the connection and is stored; nothing after it
    is dialled.  With no usable upstream the whole list is dialled once and the connection fails —
    it never blocks.  With `blocked_forever` and `C16_reuse` (the stored session intact) this covers every state:
    a Connect of the repaired code finds the mutex held for ever, reuses, or opens as described here. -/
theorem C16_ordered_failover_general (F : Facts) (c : Cfg) (sh : Sh)
    (hd : F.deadline.isSome = true) (hfw : directUsable c.fwd = false) (hb : sh.blocked = false)
    (hn : needOpen sh = true ∨ (F.discardOnLoss = true ∧ F.retry = true ∧
      ∀ (id : Nat) (p : Phys), sh.stored = some id → sh.conns[id]? = some p → p.cut = true)) :
    match firstUsable c.mustSecure sh.phase c.ups with
    | some j => ∃ sh' id, connect F c sh true = (sh', .up j, some id) ∧ sh'.dials = sh.dials ++ List.range (j + 1)
        ∧ sh'.stored = some id ∧ sh'.conns[id]? = some { up := j, cut := false, closed := false }
    | none => ∃ sh', connect F c sh true = (sh', .fail, none) ∧ sh'.dials = sh.dials ++ List.range c.ups.length
        ∧ sh'.stored = none ∧ sh'.blocked = false := by
  -- the round that opens the new connection starts from `sh` itself, or — when the stored session passes the liveness
  -- test but its carrier is cut: enter (reuse), stream (fails), discard — from `sh` with that session closed and forgotten
  obtain ⟨sh₀, a, ks, e, hph, hdl, hb₀, hn₀⟩ : ∃ sh₀ a ks,
      soloRun F c sh (.start true 0) solo = soloRun F c sh₀ (.start true a) (.enter :: .stream :: ks) ∧
      sh₀.phase = sh.phase ∧ sh₀.dials = sh.dials ∧ sh₀.blocked = false ∧ needOpen sh₀ = true := by
    cases hno : needOpen sh
    case true => exact ⟨sh, 0, _, rfl, rfl, rfl, hb, hno⟩
    case false =>
      obtain ⟨hl, hrt, hcut⟩ := hn.resolve_left (by rw [hno]; nofun)
      obtain ⟨id, p, hs, hp, hcl⟩ := needOpen_eq_false.mp hno
      have hlost : physAlive sh.conns id = false := by rw [physAlive_of hp, hcut id p hs hp]; rfl
      have e2 : tStream F sh (.have true 0 id) = some (sh, .lost true 0 id) := by
        rw [tStream_lost F true 0 hlost, hl]; rfl
      have e3 : tDiscard F sh (.lost true 0 id) =
          some ({ sh with conns := closeAt sh.conns id, stored := none }, .start true 1) := by
        rw [tDiscard_lost F true 0 id hb, if_pos hs, hrt]; rfl
      exact ⟨{ sh with conns := closeAt sh.conns id, stored := none }, 1, [.discard],
        by rw [solo, soloRun_enter (tEnter_reuse F c true 0 hb hs hp hcl), soloRun_stream e2, soloRun_discard e3],
        rfl, rfl, hb, rfl⟩
  have h := round_fresh F c sh₀ a ks hd hb₀ hn₀
  rw [hph, hdl] at h
  split at h
  · obtain ⟨sh', id, heq, h1, _, h3, h4⟩ := h
    exact ⟨sh', id, connect_of_soloRun hfw (e.trans heq), h1, h3, h4⟩
  · obtain ⟨sh', heq, h1, h2, h3⟩ := h
    exact ⟨sh', connect_of_soloRun hfw (e.trans heq), h1, h3, h2⟩

theorem C16_ordered_failover (c : Cfg) (sh : Sh)
    (hfw : directUsable c.fwd = false) (hb : sh.blocked = false) (hn : needOpen sh = true) :
    match firstUsable c.mustSecure sh.phase c.ups with
    | some j => ∃ sh' id, connect Facts.current c sh true = (sh', .up j, some id) ∧ sh'.dials = sh.dials ++ List.range (j + 1)
        ∧ sh'.stored = some id ∧ sh'.conns[id]? = some { up := j, cut := false, closed := false }
    | none => ∃ sh', connect Facts.current c sh true = (sh', .fail, none) ∧ sh'.dials = sh.dials ++ List.range c.ups.length
        ∧ sh'.stored = none ∧ sh'.blocked = false :=
  C16_ordered_failover_general Facts.current c sh gen_deadline hfw hb (.inl hn)

/-- the chosen upstream is usable and every upstream before it is not (what "first" means) -/
theorem C16_first_usable_is_first (ms : Bool) (phase : Nat) (ups : List (Kind × Kind)) (j : Nat)
    (h : firstUsable ms phase ups = some j) :
    (∃ u, ups[j]? = some u ∧ usable ms (kindAt phase u) = true) ∧
    ∀ k u, k < j → ups[k]? = some u → usable ms (kindAt phase u) = false :=
  findIdx?_spec (firstUsable_eq ms phase ups ▸ h)

/-- **reuse**: while the stored session is intact a new local connection is carried by it — no dial,
    nothing changes — and an unknown channel fails without disturbing it. -/
theorem C16_reuse (F : Facts) (c : Cfg) (sh : Sh) (id : Nat) (p : Phys) (known : Bool)
    (hfw : directUsable c.fwd = false) (hb : sh.blocked = false) (hs : sh.stored = some id)
    (hp : sh.conns[id]? = some p) (hcut : p.cut = false) (hcl : p.closed = false) :
    connect F c sh known = (sh, if known then .up p.up else .fail, if known then some id else none) := by
  -- enter reuses the stored session, stream finds it alive, and the thread is done
  refine connect_of_soloRun hfw ?_
  rw [solo, soloRun_enter (tEnter_reuse F c known 0 hb hs hp hcl), soloRun_stream (tStream_alive F known 0 hp hcut hcl),
    soloRun_done]

/-- **single_session** (all histories, all interleavings of any number of concurrent Connects with
    cuts, restarts and Shutdowns): a physical connection the client has not closed is the stored one;
    so the client never holds more than one, and every logical connection that is still alive is
    carried by that one. -/
theorem C16_single_session (c : Cfg) (acts : List Act) :
    let s := run Facts.current c init acts
    held s.sh ≤ 1 ∧
    (∀ (k : Nat) (p : Phys), s.sh.conns[k]? = some p → p.closed = false → s.sh.stored = some k) ∧
    (∀ (t : Nat) (o : Out) (id : Nat), s.pcs[t]? = some (Pc.done o (some id)) → physAlive s.sh.conns id = true → s.sh.stored = some id) := by
  intro s
  have hI : Inv s.sh := (run_inv Facts.current c gen_closesFailed gen_closesRejected gen_deadline acts).1
  refine ⟨?_, hI, ?_⟩
  · refine filter_length_le_one _ s.sh.conns (s.sh.stored.getD 0) fun k p hk hp => ?_
    simp [hI k p hk (by simpa using hp)]
  · intro t o id _ halive
    obtain ⟨p, hp, -, hcl⟩ := physAlive_iff.mp halive
    exact hI id p hp hcl

/-- **never_blocked**: no Connect ever stays in its critical section for ever -/
theorem C16_never_blocked (c : Cfg) (acts : List Act) : (run Facts.current c init acts).sh.blocked = false :=
  (run_inv Facts.current c gen_closesFailed gen_closesRejected gen_deadline acts).2

/-- **reconnect_after_loss**: after a carrier cut or a server restart — in any state, with any
    session stored — the next local connection succeeds iff some upstream is usable, and is then
    served by the first usable one over a fresh physical connection. -/
theorem C16_reconnect_after_loss (c : Cfg) (sh : Sh) (restart : Bool)
    (hfw : directUsable c.fwd = false) (hb : sh.blocked = false) :
    let sh1 := if restart then envRestart sh else envCut sh
    ((connect Facts.current c sh1 true).2.1 ≠ .fail ↔ ∃ u ∈ c.ups, usable c.mustSecure (kindAt sh1.phase u) = true) ∧
    (∀ j, firstUsable c.mustSecure sh1.phase c.ups = some j → (connect Facts.current c sh1 true).2.1 = .up j) := by
  intro sh1
  have hb1 : sh1.blocked = false := by
    simp only [sh1]; cases restart <;> simpa [envRestart, envCut] using hb
  have h := C16_ordered_failover_general Facts.current c sh1 gen_deadline hfw hb1
    (.inr ⟨gen_discardOnLoss, gen_retry, fun id p _ => all_cut_after_loss sh restart id p⟩)
  rw [← firstUsable_isSome_iff]
  split at h
  · rename_i hfu; obtain ⟨sh', id, heq, _⟩ := h; simp [heq, hfu]
  · rename_i hfu; obtain ⟨sh', heq, _⟩ := h; simp [heq, hfu]

def afterConnects (F : Facts) (c : Cfg) : Nat → Sh → Sh
  | 0, sh => sh
  | n + 1, sh => afterConnects F c n (connect F c sh true).1

/-- **witness_stale_session** (the tree before the repair): connect; cut; connect — the second local
    connection fails although the only upstream is fine, and so does every later one: the dead
    session stays stored and is never replaced (in the code: until the multiplexer's keep-alive
    closes it). -/
theorem C16_witness_stale_session :
    let c : Cfg := Cfg.simple false .absent [.okPlain]
    let s1 := envCut (connect Facts.before c Sh.init true).1
    (connect Facts.before c Sh.init true).2.1 = .up 0 ∧
    ∀ n, (connect Facts.before c (afterConnects Facts.before c n s1) true).2.1 = .fail := by
  intro c s1
  refine ⟨by decide, ?_⟩
  have hstep : connect Facts.before c s1 true = (s1, .fail, none) := by decide
  have hfix : ∀ n, afterConnects Facts.before c n s1 = s1 := by
    intro n
    induction n with
    | zero => rfl
    | succ n ih => simp only [afterConnects, hstep]; exact ih
  intro n
  rw [hfix n, hstep]

/-- **bounded_abandon**: with the handshake deadline every dial attempt — refused, silent, answering
    garbage, or completing a handshake — is over within dialTimeout + handshakeDeadline, so a failing
    upstream is abandoned within that time and the critical section of Connect within
    |upstreams| · (dialTimeout + handshakeDeadline). -/
theorem C16_bounded_abandon (dialT : Nat) (k : Kind) :
    ∃ d b, Facts.current.deadline = some d ∧ attemptBound Facts.current dialT k = some b ∧ b ≤ dialT + d := by
  -- `attemptBound` is "dial time-out, plus the deadline unless refused" by definition, so `b ≤ dialT + d` holds of
  -- itself; what the code contributes is that there is a deadline at all (`gen_deadline`)
  obtain ⟨d, hd⟩ := Option.isSome_iff_exists.mp gen_deadline
  cases k
  case refused => exact ⟨d, dialT, hd, rfl, Nat.le_add_right _ _⟩
  all_goals exact ⟨d, dialT + d, hd, congrArg (Option.map (dialT + ·)) hd, Nat.le_refl _⟩

theorem gen_deadlineSites : Gen.c16DeadlineSites = expectedDeadlineSites := rfl
theorem gen_handshakeChain : Gen.c16HandshakeChain = expectedHandshakeChain := rfl

/-- the regenerated lists are the expected ones literally, so the comparison is of a list with itself -/
theorem gen_deadlineSpansHandshake : deadlineSpansHandshake Gen.c16DeadlineSites Gen.c16HandshakeChain = true := by
  simp only [deadlineSpansHandshake, gen_deadlineSites, gen_handshakeChain, beq_self_eq_true, Bool.and_self]

/-- the deadline calls of client.go and the call chain of the handshake phases are the ones the model was
    written against: one deadline armed before the first request, cleared only in the deferred closure of
    `NewClientConnection` on success — after `upgrade`, hence after `startTls` / `tls.Conn.Handshake`, returned.
    A deadline call that appears, disappears or moves names itself in this obligation. -/
theorem C16_deadline_sites :
    Gen.c16DeadlineSites = expectedDeadlineSites ∧ Gen.c16HandshakeChain = expectedHandshakeChain ∧
    deadlineSpansHandshake Gen.c16DeadlineSites Gen.c16HandshakeChain = true ∧ Gen.c16WsDialBounded = true :=
  ⟨gen_deadlineSites, gen_handshakeChain, gen_deadlineSpansHandshake, rfl⟩

/-- **bounded_abandon at every stall point**: an upstream that answers correctly up to a later point of the
    handshake — the first response, the 101, the beginning of a TLS record — and then goes silent is abandoned
    within dialTimeout + handshakeDeadline just like one that never answers; in the policy model each of them
    is the outcome `silent` of that upstream (`kindOfChar`), so fail-over continues (`C16_ordered_failover`)
    and no Connect blocks (`C16_never_blocked`). -/
theorem C16_bounded_abandon_stall (dialT : Nat) (p : StallPt) :
    ∃ d b, Facts.current.deadline = some d ∧
      stallBound Facts.current (deadlineSpansHandshake Gen.c16DeadlineSites Gen.c16HandshakeChain) dialT p = some b ∧
      b ≤ dialT + d := by
  obtain ⟨d, hd⟩ := Option.isSome_iff_exists.mp gen_deadline
  -- `stallBound` is `dialT + d` by definition wherever the deadline is in force; the content is that it is in force at
  -- every stall point, which is `gen_deadlineSpansHandshake`
  rw [gen_deadlineSpansHandshake]
  cases p <;> exact ⟨d, dialT + d, hd, congrArg (Option.map (dialT + ·)) hd, Nat.le_refl _⟩

theorem C16_stall_kinds_are_silent :
    kindOfChar 'A' = some .silent ∧ kindOfChar 'L' = some .silent ∧ kindOfChar 'K' = some .silent ∧
    kindOfChar 'S' = some .silent := by decide

/-- **witness_starttls_stall_unbounded**: were the deadline taken off once the 101 has been read (a further
    clearing call inside `upgrade`), an upstream that goes silent inside the StartTLS handshake would never be
    abandoned — while one that is silent from the start still would. -/
theorem C16_witness_starttls_stall_unbounded :
    let sites := expectedDeadlineSites ++ [("ClientConnection.upgrade", "SetDeadline", "time.Time{}", "after request.Write,response.Read")]
    deadlineSpansHandshake sites expectedHandshakeChain = false ∧
    stallBound Facts.current false 0 .startTls = none ∧ stallBound Facts.current false 0 .tlsRecord = none ∧
    (stallBound Facts.current false 0 .start).isSome = true :=
  -- a list with one more entry is not the expected list
  ⟨by simp [deadlineSpansHandshake], rfl, rfl, rfl⟩

/-- **witness_silent_blocks** (the tree before the repair): [silent, ok] — the first local connection
    never returns, the second upstream is never dialled, the mutex is never released: every later
    local connection blocks as well, and Shutdown does nothing. -/
theorem C16_witness_silent_blocks :
    let c : Cfg := Cfg.simple false .absent [.silent, .okPlain]
    let r := connect Facts.before c Sh.init true
    r.2.1 = .blocked ∧ r.1.dials = [0] ∧ r.1.blocked = true ∧ attemptBound Facts.before 0 .silent = none ∧
    (connect Facts.before c r.1 true).2.1 = .blocked ∧ (connect Facts.before c (envClose r.1) true).2.1 = .blocked := by
  decide

/-- **witness_leak** (the tree before the repair): security required, [plain, secure] — every round of
    `open` leaves the rejected plain connection open next to the one that is used. -/
theorem C16_witness_rejected_leak :
    let c : Cfg := Cfg.simple true .absent [.okPlain, .okSecure]
    held (connect Facts.before c Sh.init true).1 = 2 := by decide

/-! ### verifying client: upstream lists with different names, kinds and certificates (`poltls`) -/

/-- **usable is a function of the upstream alone**: under required security and verification an upstream completes a
    handshake that meets the requirement iff it is live and its certificate carries the name it is addressed by —
    whatever was dialled before it. -/
theorem C16_usable_intrinsic (d : UpDesc) (live : Bool) : usable true (d.kind live) = d.usable live :=
  d.usable_kind live

/-- **ordered fail-over on these lists**: the first upstream in list order that is live and verifiable under its own
    name serves the local connection; with none, the connection fails. -/
theorem C16_verified_failover (ds : List UpDesc) :
    match firstDesc none false ds 0 with
    | some j => (connect Facts.current (descCfg ds none) Sh.init true).2.1 = .up j
    | none => (connect Facts.current (descCfg ds none) Sh.init true).2.1 = .fail := by
  have h := C16_ordered_failover (descCfg ds none) Sh.init rfl rfl rfl
  have e : firstUsable (descCfg ds none).mustSecure Sh.init.phase (descCfg ds none).ups = firstDesc none false ds 0 :=
    firstUsable_descScripts none false ds 0
  rw [e] at h
  split at h
  · obtain ⟨sh', id, heq, _⟩ := h; simp [heq]
  · obtain ⟨sh', heq, _⟩ := h; simp [heq]

/-- **the reversed list gives the mirrored answer**: it is served by the LAST upstream of the original list that is live
    and verifiable under its own name (position `length - 1 - k`), every later one being unusable. -/
theorem C16_verified_mirror (ds : List UpDesc) (k : Nat) (h : firstDesc none false ds.reverse 0 = some k) :
    (connect Facts.current (descCfg ds.reverse none) Sh.init true).2.1 = .up k ∧
    ∃ d, ds[ds.length - 1 - k]? = some d ∧ d.usable d.live = true ∧
      ∀ m d', ds.length - 1 - k < m → ds[m]? = some d' → d'.usable d'.live = false := by
  refine ⟨by have := C16_verified_failover ds.reverse; rw [h] at this; exact this, ?_⟩
  obtain ⟨⟨d, hd, hu⟩, hbefore⟩ := findIdx?_spec (firstDesc_eq ds.reverse 0 ▸ h)
  have hk : k < ds.length := by simpa using (List.getElem?_eq_some_iff.mp hd).1
  rw [List.getElem?_reverse hk] at hd
  refine ⟨d, hd, hu, fun m d' hm hd' => ?_⟩
  -- position `m` of the list is position `length - 1 - m` of the reversed list, which is in front of `k`
  have hml : m < ds.length := (List.getElem?_eq_some_iff.mp hd').1
  exact hbefore (ds.length - 1 - m) d' (by omega) (by rw [List.getElem?_reverse' (j := m) (by omega)]; exact hd')

/-- **reconnect on these lists**: after the session is lost — the serving upstream gone for good (`lost`, restart) or
    only its carrier cut — the next local connection is served by the first upstream in list order that is then live
    and verifiable under its own name, in any state the first connections left behind. -/
theorem C16_verified_reconnect (ds : List UpDesc) (lost : Option Nat) (sh : Sh) (hb : sh.blocked = false) (j : Nat) :
    (firstDesc lost true ds 0 = some j →
      (connect Facts.current (descCfg ds lost) (envRestart sh) true).2.1 = .up j) ∧
    (sh.phase = 0 → firstDesc lost false ds 0 = some j →
      (connect Facts.current (descCfg ds lost) (envCut sh) true).2.1 = .up j) :=
  -- `C16_reconnect_after_loss` on the configuration the list describes, whose first usable upstream is `firstDesc`
  ⟨fun h => (C16_reconnect_after_loss (descCfg ds lost) sh true rfl hb).2 j
      ((firstUsable_descScripts lost true ds 0).trans h),
   fun hp h => (C16_reconnect_after_loss (descCfg ds lost) sh false rfl hb).2 j
      (by rw [← h, ← firstUsable_descScripts lost false ds 0]; simp [descCfg, envCut, hp])⟩

-- stall points: [stalls inside StartTLS, StartTLS server] is served by the second upstream; bound is concrete
example : ((kindOfChar 'L').bind fun l => (kindOfChar 'Q').map fun q =>
    (connect Facts.current (Cfg.simple false .absent [l, q]) Sh.init true).2.1) = some (.up 1) := by decide
example : (stallBound Facts.current true 1000 .startTls).isSome = true := by decide
-- failover past a refused, a silent and a garbage-answering upstream to the fourth one
example : (connect Facts.current (Cfg.simple false .absent [.refused, .silent, .hsError, .okPlain]) Sh.init true).2.1 = .up 3 := by decide
-- an insecure upstream is passed over when security is required
example : (connect Facts.current (Cfg.simple true .absent [.okPlain, .okSecure]) Sh.init true).2.1 = .up 1 := by decide
-- connect; cut; connect: served again, two dials in all, one connection held
example : let c : Cfg := Cfg.simple false .absent [.okPlain]
    let s := (connect Facts.current c (envCut (connect Facts.current c Sh.init true).1) true)
    s.2.1 = .up 0 ∧ s.1.dials = [0, 0] ∧ held s.1 = 1 := by decide
-- a forward address that is usable wins over a working upstream
example : (connect Facts.current (Cfg.simple false .ok [.okPlain]) Sh.init true).2.1 = .direct := by decide
-- an interleaving of two concurrent Connects after a cut: both are served, one physical connection
example : let c : Cfg := Cfg.simple false .absent [.okPlain]
    let s := run Facts.current c init [.spawn true, .thread 0 .enter, .thread 0 .stream, .cut, .spawn true, .spawn true,
      .thread 1 .enter, .thread 2 .enter, .thread 1 .stream, .thread 2 .stream, .thread 2 .discard, .thread 1 .discard,
      .thread 2 .enter, .thread 1 .enter, .thread 1 .stream, .thread 2 .stream]
    s.pcs = [Pc.done (.up 0) (some 0), Pc.done (.up 0) (some 1), Pc.done (.up 0) (some 1)] ∧ held s.sh = 1 ∧ s.sh.dials = [0, 0] := by decide

-- verifying client: dead 127.0.0.1 first, healthy `localhost` second — served by the second; reversed: by the first
example : let ds : List UpDesc := [⟨"tcptls", false, .both, false⟩, ⟨"tcptls", true, .nameonly, true⟩]
    (connect Facts.current (descCfg ds none) Sh.init true).2.1 = .up 1 ∧
    (connect Facts.current (descCfg ds.reverse none) Sh.init true).2.1 = .up 0 := by decide
-- a live upstream whose certificate does not carry the name it is addressed by is passed over
example : let ds : List UpDesc := [⟨"wss", true, .iponly, true⟩, ⟨"starttls", false, .iponly, true⟩]
    (connect Facts.current (descCfg ds none) Sh.init true).2.1 = .up 1 := by decide
-- StartTLS upstream serves, goes away; the TLS socket with the other name takes over
example : let ds : List UpDesc := [⟨"starttls", false, .both, true⟩, ⟨"tcptls", true, .nameonly, true⟩]
    let c := descCfg ds (some 0)
    (connect Facts.current c (envRestart (connect Facts.current c Sh.init true).1) true).2.1 = .up 1 := by decide

/-- both ends run the multiplexer with the library's default keep-alive (the only configuration field the code assigns
    is the frame size; regenerated): the two ends therefore agree on how often a keep-alive frame is due and how long
    silence is tolerated, and an idle session on a healthy carrier is not taken for a lost one. -/
theorem C16_mux_timing_is_default_on_both_ends :
    Gen.smuxConfigAssignedServer = ["MaxFrameSize"] ∧ Gen.smuxConfigAssignedClient = ["MaxFrameSize"] := ⟨rfl, rfl⟩

/-- **locks_not_reentrant**: the policy model's steps (Connect's critical section, discard, Shutdown) are atomic; in
    the code no function holding Upstreams.mutex reaches code that locks it again (regenerated). -/
theorem C16_locks_not_reentrant : Gen.reentrantLockPaths = [] := rfl

end SA.Policy

#print axioms SA.Policy.C16_usable_intrinsic
#print axioms SA.Policy.C16_verified_failover
#print axioms SA.Policy.C16_verified_mirror
#print axioms SA.Policy.C16_verified_reconnect
#print axioms SA.Policy.C16_current_facts
#print axioms SA.Policy.C16_shape
#print axioms SA.Policy.C16_direct_first
#print axioms SA.Policy.C16_direct_only_if_usable
#print axioms SA.Policy.C16_ordered_failover_general
#print axioms SA.Policy.C16_ordered_failover
#print axioms SA.Policy.C16_first_usable_is_first
#print axioms SA.Policy.C16_reuse
#print axioms SA.Policy.C16_single_session
#print axioms SA.Policy.C16_never_blocked
#print axioms SA.Policy.C16_reconnect_after_loss
#print axioms SA.Policy.C16_witness_stale_session
#print axioms SA.Policy.C16_bounded_abandon
#print axioms SA.Policy.C16_witness_silent_blocks
#print axioms SA.Policy.C16_witness_rejected_leak
#print axioms SA.Policy.C16_deadline_sites
#print axioms SA.Policy.C16_bounded_abandon_stall
#print axioms SA.Policy.C16_stall_kinds_are_silent
#print axioms SA.Policy.C16_witness_starttls_stall_unbounded
#print axioms SA.Policy.C16_locks_not_reentrant

namespace SA.PkgState
/-- **no_hidden_process_state**: the models of this property are functions of their arguments and of the objects they are
    handed; the packages they model keep no package-level variables besides these (regenerated inventory: error
    sentinels, tables, compiled patterns, the two session time-outs).  A new package-level variable — a counter, a cache, a
    scratch buffer, a shared map, a registry — would make later calls depend on earlier ones, or concurrent calls on each
    other, outside anything a per-call comparison of model and code can see. -/
theorem C16_no_hidden_process_state :
    Gen.pkgVarNames_upstream = [] := rfl
end SA.PkgState

#print axioms SA.PkgState.C16_no_hidden_process_state
#print axioms SA.Policy.C16_mux_timing_is_default_on_both_ends

namespace SA.KeepAlive
/-- **idle_session_survives**: whenever the peer's keep-alive interval is positive and not longer than this end's
    time-out, EVERY time-out period of an idle session contains a frame from the peer, so the end never closes it — for all
    intervals, time-outs and periods.  Both ends run the library's default timing (theorem
    `C16_mux_timing_is_default_on_both_ends`: the code assigns only the frame size), and the library refuses a
    configuration whose interval exceeds its time-out, so the hypothesis holds in both directions. -/
theorem C16_idle_session_survives (I T : Nat) (hI : 0 < I) (hIT : I ≤ T) (n : Nat) : periodHasFrame I T n = true := by
  -- period n is (n·T, (n+1)·T]; the last multiple of `I` up to its end, `q·I` with `q = (n+1)·T / I`, lies less than
  -- `I ≤ T` below the end (`h1`, `h2`), hence above the start `n·T` (`h3`)
  unfold periodHasFrame
  have h1 := Nat.div_add_mod ((n + 1) * T) I
  have h2 := Nat.mod_lt ((n + 1) * T) hI
  have h3 : (n + 1) * T = n * T + T := Nat.succ_mul n T
  have h4 : (n + 1) * T / I * I = I * ((n + 1) * T / I) := Nat.mul_comm _ _
  simp only [decide_eq_true_eq]
  omega

theorem C16_idle_session_survives_any_time (I T : Nat) (hI : 0 < I) (hIT : I ≤ T) (periods : Nat) :
    survives I T periods = true := by
  unfold survives
  simp only [List.all_eq_true]
  intro n _
  exact C16_idle_session_survives I T hI hIT n

/-- witness: an end that tolerates 4 s of silence against a peer that sends every 10 s closes an idle, healthy session in
    its very first period; with the library's 10 s / 30 s on both ends it does not -/
theorem C16_witness_short_timeout : periodHasFrame 10 4 0 = false ∧ survives 10 30 1000 = true := by
  refine ⟨by decide, C16_idle_session_survives_any_time 10 30 (by omega) (by omega) 1000⟩
end SA.KeepAlive

#print axioms SA.KeepAlive.C16_idle_session_survives
#print axioms SA.KeepAlive.C16_idle_session_survives_any_time
#print axioms SA.KeepAlive.C16_witness_short_timeout
