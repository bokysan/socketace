/-
  C09, continued — several requests at the same moment.

  miekg/dns runs the server's handler on a goroutine of its own for every query, and every session goes
  through the same process-wide values: the codec singletons `enc.Base32Encoding … enc.Base128Encoding`,
  the command table `commands.Commands`, serializers that are plain structs.  The property is stated per
  request; it is a property of the *server* only if the request path is a function of the one request —
  also while other requests, of the same or of other users, codecs, commands and domains, are in flight.

  In the model this is true by construction (`roundTrip` is a function; a batch is `List.map`), and the
  theorems below say so explicitly, so that the claim is on the books: the outcome for one member of a batch
  does not depend on the other members, on their number, on the order, on the number of goroutines or on the
  number of repetitions, and every member that meets the hypotheses of `C09_request_roundtrip` is decoded as
  the request that was sent.  What ties the statement to the Go code is the `par` op of the `dnsreq`
  component: G goroutines, released together, push the listed requests through the real serializers and the
  real shared singletons again and again, and every result must be the model's — i.e. the result of the same
  request processed alone.  A codec, serializer or helper that keeps per-call data in shared state (a scratch
  buffer in an encoder struct, a package-level slice, a cached last result) makes the implementation differ
  from this model on some interleaving; the monitor then names the request, what it gave alone and what it
  gave next to the others.
-/
import SA.Props.C09Inst
import SA.Proofs.ParOp
namespace SA.DnsReq
open SA.DnsWire SA.WireCodec

/-- one query in flight: the user's upstream codec, the cache-busting characters, the tunnel domain of the
    session and the request -/
structure Query where
  up : Codec
  cache : List Nat
  domain : List Nat
  r : Req

/-- the server's view of a batch of queries handled concurrently (any interleaving): the model has no state
    a query could leave behind, so it is the list of the single outcomes -/
def roundTripBatch (b32 : Codec) (qs : List Query) : List Outcome :=
  qs.map (fun q => roundTrip b32 q.up q.cache q.domain q.r)

/-- **C09, batches are pointwise.**  The outcome of the query at any position of a batch is the outcome of
    that query alone — whatever stands before and after it. -/
theorem C09_batch_pointwise (b32 : Codec) (pre post : List Query) (q : Query) :
    (roundTripBatch b32 (pre ++ q :: post))[pre.length]? = some (roundTrip b32 q.up q.cache q.domain q.r) := by
  simp [roundTripBatch]

/-- the same by index -/
theorem C09_batch_index (b32 : Codec) (qs : List Query) (i : Nat) (h : i < qs.length) :
    (roundTripBatch b32 qs)[i]? = some (roundTrip b32 qs[i].up qs[i].cache qs[i].domain qs[i].r) := by
  simp [roundTripBatch, h]

/-- **C09 for concurrent queries.**  If every query of a batch meets the hypotheses of
    `C09_request_roundtrip` (codec pair with C08's theorems, name-safe cache characters, plain domain,
    fields in range, question accepted by PrepareHostname) then every query of the batch is decoded by the
    server as exactly the request its user sent. -/
theorem C09_concurrent_requests_roundtrip (b32 : Codec) (hb : b32.Good) (sb : b32.Safe) (qs : List Query)
    (hq : ∀ q ∈ qs, q.up.Good ∧ q.up.Safe ∧ CacheOk q.cache ∧ (∃ dls, DomainOk q.domain dls) ∧ ReqOk q.r
        ∧ (prepareHostname (encodeReq b32 q.up q.cache q.r) q.domain).isSome) :
    ∀ i (h : i < qs.length), ∃ name labels,
      (roundTripBatch b32 qs)[i]? = some (.ok name labels qs[i].r) := by
  intro i h
  obtain ⟨hu, su, hc, ⟨dls, hdom⟩, hr, hfit⟩ := hq qs[i] (List.getElem_mem h)
  obtain ⟨host, hhost⟩ := Option.isSome_iff_exists.mp hfit
  obtain ⟨labels, _, hrt⟩ :=
    C09_request_roundtrip b32 qs[i].up hb hu sb su qs[i].cache qs[i].domain dls hc hdom qs[i].r hr host hhost
  exact ⟨unpackName labels, labels, by rw [C09_batch_index b32 qs i h, hrt]⟩

/-- … with the codec hypotheses discharged: every user's upstream codec is one of the selectable ones -/
theorem C09_concurrent_requests_roundtrip_inst (qs : List (SA.Codec.Codec × List Nat × List Nat × Req))
    (hq : ∀ q ∈ qs, q.1 ∈ upstreamCodecs ∧ CacheOk q.2.1 ∧ (∃ dls, DomainOk q.2.2.1 dls) ∧ ReqOk q.2.2.2
        ∧ (prepareHostname (encodeReq (ofC08 .b32) (ofC08 q.1) q.2.1 q.2.2.2) q.2.2.1).isSome) :
    ∀ i (h : i < qs.length), ∃ name labels,
      (roundTripBatch (ofC08 .b32) (qs.map (fun q => ⟨ofC08 q.1, q.2.1, q.2.2.1, q.2.2.2⟩)))[i]?
        = some (.ok name labels qs[i].2.2.2) := by
  intro i h
  have := C09_concurrent_requests_roundtrip (ofC08 .b32) (ofC08_good .b32 (by decide)) (ofC08_safe .b32 (by decide))
    (qs.map fun q => ⟨ofC08 q.1, q.2.1, q.2.2.1, q.2.2.2⟩)
    (List.forall_mem_map.mpr fun q hm =>
      have ⟨hcd, rest⟩ := hq q hm
      ⟨ofC08_good q.1 hcd, ofC08_safe q.1 hcd, rest⟩) i (by rwa [List.length_map])
  rwa [List.getElem_map] at this

/-- **the `par` op of the line protocol is the map of the single ops** — independent of the number of
    goroutines and of repetitions (the model the `dnsreq` correspondence compares the concurrent drive of the
    real code with) -/
theorem C09_par_op_pointwise (g iters : String) (rest : List String)
    (hg : g.toNat?.isSome) (hi : iters.toNat?.isSome)
    (hops : (splitOps rest).all (fun o => !o.isEmpty && o.head? != some "par")) :
    handle ("par" :: g :: iters :: rest) = String.intercalate " ; " ((splitOps rest).map handleOne) := by
  simp only [handle, handleBatch, SA.par_guard_false hg hi hops, Bool.false_eq_true, if_false]

-- non-vacuity: a batch of two users with different codecs, both decoded as sent (executable model, the
-- local Base32 and C08's Base128)
set_option maxRecDepth 100000 in
example :
    let q1 : Query := ⟨base32, [97, 98, 99], [97, 46, 98], .packet 7 300 (some (9, [1, 2, 250]))⟩
    let q2 : Query := ⟨ofC08 .b128, [120, 121, 122], [116, 46, 101, 120], .packet 719 16479 (some (5, [255, 0, 46, 92]))⟩
    ((roundTripBatch base32 [q1, q2]).map (fun o => match o with | .ok _ _ r => some r | _ => none))
      = [some q1.r, some q2.r] := by decide +kernel

/-- non-vacuity of the op form: two single ops, one separator -/
example : splitOps ["mtu", "3", "T", "0", ";", "mtu", "4", "V", "1"] = [["mtu", "3", "T", "0"], ["mtu", "4", "V", "1"]] := by
  decide

end SA.DnsReq

#print axioms SA.DnsReq.C09_batch_pointwise
#print axioms SA.DnsReq.C09_batch_index
#print axioms SA.DnsReq.C09_concurrent_requests_roundtrip
#print axioms SA.DnsReq.C09_concurrent_requests_roundtrip_inst
#print axioms SA.DnsReq.C09_par_op_pointwise
