/-
  C06 — a refusal is final.

  Once a message of a stream has been answered with an error status the handshake is over for this connection:
  the result (outcome and every response written) does not depend on the bytes that follow the refused message,
  and no session comes out of them.  Stated at the reader level (two streams whose messages up to and including the
  refused one read the same give the same result), at the byte level for messages in wire format, and as the regenerated
  control-flow shape of server.go / client.go (every answer with an error status is followed by the return of an error).
-/
import SA.Props.C06
import SA.Gen.C06Refusal
namespace SA.Handshake

/-- the next message of two streams reads the same (what remains after it is left open) -/
def SameMessage {α : Type} : Parsed (α × Rd) → Parsed (α × Rd) → Prop
  | .ok (q, _), .ok (q', _) => q = q'
  | .err, .err => True
  | .panic, .panic => True
  | _, _ => False

/-- a result that is a refusal with exactly `n` responses written (n = 1: at the announce step, n = 2: at the upgrade step) -/
def RefusedAfter (n : Nat) (res : SrvResult) : Prop :=
  res.written.length = n ∧ ∃ st, res.out = .refused st

theorem SameMessage.err {α : Type} {a b : Parsed (α × Rd)} (h : SameMessage a b) (e : a = .err) : b = .err := by
  subst e
  cases b <;> first | rfl | cases h

theorem SameMessage.ok {α : Type} {a b : Parsed (α × Rd)} {q : α} {r : Rd} (h : SameMessage a b) (e : a = .ok (q, r)) :
    ∃ r', b = .ok (q, r') := by
  subst e
  cases b with
  | ok x => exact ⟨x.2, by rw [show q = x.1 from h]⟩
  | _ => cases h

/-- **a refusal at the announce step is final.**  If the first message of two streams reads the same and one run
    ends in a refusal after a single response, then the other run — on any remaining bytes, with any
    configuration, any TLS behaviour, any fuel — gives the identical result: nothing that follows the refused
    message is looked at. -/
theorem C06_refusal_is_final (cfg cfg' : SrvCfg) (tls tls' : B → Bool) (f f' : Nat) (r r' : Rd)
    (hsame : SameMessage (readRequest f r) (readRequest f' r'))
    (href : RefusedAfter 1 (serverOn cfg tls f r)) :
    serverOn cfg' tls' f' r' = serverOn cfg tls f r := by
  obtain ⟨hone, st, href⟩ := href
  -- both runs end at the announce step, on what the first message alone decides
  rcases serverOn_refused_one hone href with e | ⟨q, r1, n, e, ha⟩
  · rw [serverOn_of_unreadable e, serverOn_of_unreadable (hsame.err e)]
  · obtain ⟨r1', e'⟩ := hsame.ok e
    rw [serverOn_of_error e ha, serverOn_of_error e' ha]

/-- **a refusal at the upgrade step is final.**  Same announce message (accepted), same upgrade message, one run
    refused after two responses: the other run gives the identical result on any remaining bytes, with any TLS
    behaviour and any fuel (the configuration is the same: 503 / 500 depend on it). -/
theorem C06_refusal_is_final_upgrade (cfg : SrvCfg) (tls tls' : B → Bool) (f f' : Nat) (r r' : Rd)
    (q : Request) (r1 r1' : Rd)
    (h1 : readRequest f r = .ok (q, r1)) (h1' : readRequest f' r' = .ok (q, r1'))
    (hsame : SameMessage (readRequest f r1) (readRequest f' r1'))
    (href : RefusedAfter 2 (serverOn cfg tls f r)) :
    serverOn cfg tls' f' r' = serverOn cfg tls f r := by
  obtain ⟨htwo, st, href⟩ := href
  -- the refusal is the verdict on the second request, which the other run reads too
  obtain ⟨v, q2, r2, n, ha, e2, hv⟩ := serverOn_refused_two h1 htwo href
  obtain ⟨r2', e2'⟩ := hsame.ok e2
  rw [serverOn_of_ok h1 ha, serverOn_of_ok h1' ha, upgradeStep_of_refuse e2 hv, upgradeStep_of_refuse e2' hv]

/-- **an error answer is final for the client.**  If the first answer reads the same on two streams and one run is
    refused after one request, the other run is identical whatever follows (likewise after the second answer:
    `C06_refusal_is_final_client_upgrade`). -/
theorem C06_refusal_is_final_client (s0 s0' : Bool) (tls tls' : B → Bool) (f f' : Nat) (r r' : Rd)
    (hsame : SameMessage (readResponse f r) (readResponse f' r'))
    (hone : (clientOn s0 tls f r).requests = 1)
    (href : ∃ st, (clientOn s0 tls f r).out = .refused st) :
    clientOn s0' tls' f' r' = clientOn s0 tls f r := by
  obtain ⟨st, href⟩ := href
  obtain ⟨q, r1, e, hc⟩ := clientOn_refused_one hone href
  obtain ⟨r1', e'⟩ := hsame.ok e
  rw [clientOn_of_refused e hc, clientOn_of_refused e' hc]

theorem C06_refusal_is_final_client_upgrade (s0 : Bool) (tls tls' : B → Bool) (f f' : Nat) (r r' : Rd)
    (q : Response) (r1 r1' : Rd)
    (h1 : readResponse f r = .ok (q, r1)) (h1' : readResponse f' r' = .ok (q, r1'))
    (hsame : SameMessage (readResponse f r1) (readResponse f' r1'))
    (hone : (clientOn s0 tls f r).requests = 2)
    (href : ∃ st, (clientOn s0 tls f r).out = .refused st) :
    clientOn s0 tls' f' r' = clientOn s0 tls f r := by
  obtain ⟨st, href⟩ := href
  -- the refusal is the status of the second reply, which the other run reads too
  obtain ⟨hc, q2, r2, e2, hc2⟩ := clientOn_refused_two h1 hone href
  obtain ⟨r2', e2'⟩ := hsame.ok e2
  rw [clientOn_of_accepted h1 hc, clientOn_of_accepted h1' hc, clientUpgrade_of_refused e2 hc2,
    clientUpgrade_of_refused e2' hc2]

/-! ## byte level: a message in wire format that is refused, followed by anything -/

theorem sameMessage_wire (line : B) (hl : 10 ∉ line) (hs : Headers) (hw : wfHeaders hs = true)
    (f f' : Nat) (hf : hs.length < f) (hf' : hs.length < f') (rest rest' : B) :
    SameMessage (readRequest f ⟨wireMessage line hs ++ rest, []⟩) (readRequest f' ⟨wireMessage line hs ++ rest', []⟩) := by
  unfold readRequest
  rw [readHeader_wire line hl hs hw f hf rest, readHeader_wire line hl hs hw f' hf' rest']
  simp only
  rcases parseRequestLine line with ⟨m, u, p⟩ | _ | _ <;> simp [SameMessage]

/-- **whatever follows a refused first message is irrelevant (byte level).**  Take any first line without LF —
    parsable or not — and any block of well-formed header lines closed by an empty line; if the server refuses this
    message (one response written) when `rest` follows, then for every other continuation `rest'` — a well-formed
    upgrade request for any version, a second announce + upgrade pair, a copy of the same junk —, every
    configuration, every TLS behaviour and **every segmentation** of either stream the result is the same refusal
    with the same single response. -/
theorem C06_refused_whatever_follows (cfg cfg' : SrvCfg) (tls tls' : B → Bool)
    (line : B) (hs : Headers) (rest rest' : B) (chunks chunks' : List B)
    (hl : 10 ∉ line) (hw : wfHeaders hs = true)
    (hc : chunks.flatten = wireMessage line hs ++ rest) (hc' : chunks'.flatten = wireMessage line hs ++ rest')
    (href : RefusedAfter 1 (serverRun cfg tls chunks)) :
    serverRun cfg' tls' chunks' = serverRun cfg tls chunks := by
  rw [serverRun_flat] at href ⊢
  rw [serverRun_flat cfg tls chunks]
  rw [hc] at href ⊢
  rw [hc']
  -- the fuel of a run, two more than the bytes of the stream, exceeds the header count of the message
  have l := length_lt_wireMessage line hs
  exact C06_refusal_is_final cfg cfg' tls tls' _ _ _ _
    (sameMessage_wire line hl hs hw _ _ (by rw [List.length_append]; omega) (by rw [List.length_append]; omega) rest rest') href

/-! ## why it matters: the upgrade step after a 400 -/

/-- an announce that cannot be parsed (`X-SOCKETACE/v2.0.0`: no blank in the request line) + empty line -/
def exJunk : B := [88, 45, 83, 79, 67, 75, 69, 84, 65, 67, 69, 47, 118, 50, 46, 48, 46, 48, 13, 10, 13, 10]
/-- `GET / HTTP/1.1 CRLF Connection: upgrade CRLF Upgrade: socketace/ CRLF CRLF` -/
def exUpgradeEmpty : B :=
  [71, 69, 84, 32, 47, 32, 72, 84, 84, 80, 47, 49, 46, 49, 13, 10,
   67, 111, 110, 110, 101, 99, 116, 105, 111, 110, 58, 32, 117, 112, 103, 114, 97, 100, 101, 13, 10,
   85, 112, 103, 114, 97, 100, 101, 58, 32, 115, 111, 99, 107, 101, 116, 97, 99, 101, 47, 13, 10, 13, 10]

/-- **witness.**  On `junk ++ upgrade-for-the-empty-version` the server answers 400 and stops: one response, no
    session.  A server that went on to the upgrade step after that 400 — the negotiated version still empty —
    would answer 101 and hand out a session (with version "") to a peer that never sent a well-formed announce:
    the finality of the refusal is what `C06_admits_only_wellformed` rests on, and `[400, 101]` contradicts
    `C06_session_only_after_101`. -/
theorem C06_witness_continue_after_400 :
    serverRun ⟨false, .nil⟩ (fun _ => false) [exJunk ++ exUpgradeEmpty] = ⟨.refused 400, [⟨400, [serverHdr]⟩]⟩ ∧
    (upgradeStep ⟨false, .nil⟩ (fun _ => false) 100 [] [⟨400, [serverHdr]⟩] ⟨exUpgradeEmpty, []⟩).out
        = .established [] .none false [] ∧
    (upgradeStep ⟨false, .nil⟩ (fun _ => false) 100 [] [⟨400, [serverHdr]⟩] ⟨exUpgradeEmpty, []⟩).written.map (·.code)
        = [400, 101] := by
  decide +kernel

/-! ## the regenerated control-flow shape -/

/-- the statuses with which the model's decision trees refuse, as the extractor names them -/
def isRefusalStatus (st : String) : Bool :=
  st == "400" || st == "405" || st == "409" || st == "406" || st == "500" || st == "503" || st == "non-101" ||
  st == "403"  -- upgrade step, repair of C05: client certificates required and the client did not ask for StartTLS
               -- (the C06 configurations never set that requirement; the refusal is C05's `reqcert` model)

/-- **shape of the code the model's `refused` leaves stand for.**
    * every `response.Write(conn)` of `handshake` / `upgrade` that writes an error status is directly followed by the
      return of an error that is non-nil by construction and is not assigned between its creation and the `return`
      (`return-error`); the 200 is followed by `return nil`, a 101 by the TLS handshake or the final return;
    * each refusal of the model has its write site: 400, 405, 409 in `handshake`; the non-101 answers (405 / 406),
      500 and 503 in `upgrade`; nothing else is written;
    * `NewServerConnection` / `NewClientConnection` test the error of each step and return it;
    * the client's two status tests (`!= 200`, `!= 101`) return an error. -/
theorem C06_refusal_returns_error :
    (∀ w ∈ Gen.c06ResponseWrites,
        (isRefusalStatus w.2.1 = true → w.2.2 = "return-error") ∧
        (w.2.1 = "200" → w.2.2 = "return-nil") ∧
        (w.2.1 = "101" → (w.2.2 = "continues" ∨ w.2.2 = "return-nil")) ∧
        (isRefusalStatus w.2.1 = true ∨ w.2.1 = "200" ∨ w.2.1 = "101")) ∧
    (∀ st ∈ ["400", "405", "409", "200"], ("handshake", st) ∈ Gen.c06ResponseWrites.map (fun w => (w.1, w.2.1))) ∧
    (∀ st ∈ ["non-101", "500", "503", "101"], ("upgrade", st) ∈ Gen.c06ResponseWrites.map (fun w => (w.1, w.2.1))) ∧
    (∀ g ∈ Gen.c06StepGuards, g.2.2 = "return-error") ∧
    (∀ fn ∈ ["NewServerConnection", "NewClientConnection"], ∀ step ∈ ["handshake", "upgrade"],
        (fn, step) ∈ Gen.c06StepGuards.map (fun g => (g.1, g.2.1))) ∧
    Gen.c06ClientStatusGuards = [("handshake", "!= 200", "return-error"), ("upgrade", "!= 101", "return-error")] := by
  decide +kernel

/-- the hypothesis of `C06_refused_whatever_follows` is satisfiable and the continuation really differs:
    `X-SOCKETACE/v2.0.0` + empty line, followed by nothing resp. by the upgrade request for the empty version -/
theorem exJunk_refused : RefusedAfter 1 (serverRun ⟨false, .nil⟩ (fun _ => false) [exJunk]) :=
  ⟨by decide +kernel, 400, by decide +kernel⟩
example : RefusedAfter 1 (serverRun ⟨false, .nil⟩ (fun _ => false) [exJunk]) := exJunk_refused
example : serverRun ⟨true, .ok⟩ (fun _ => true) ((exJunk ++ exUpgradeEmpty).map fun b => [b])
    = serverRun ⟨false, .nil⟩ (fun _ => false) [exJunk] :=
  C06_refused_whatever_follows _ _ _ _ (exJunk.take 18) [] [] exUpgradeEmpty [exJunk] _
    (by decide) (by decide) (by decide) (by rw [flatten_bytewise]; decide) exJunk_refused
/-- a refusal at the upgrade step exists (two responses) -/
example : RefusedAfter 2 (serverRun ⟨false, .nil⟩ (fun _ => false)
    [ex_announce ++ [80, 79, 83, 84, 32, 47, 32, 72, 13, 10, 13, 10]]) := by
  refine ⟨by decide +kernel, 405, by decide +kernel⟩

end SA.Handshake

#print axioms SA.Handshake.C06_refusal_is_final
#print axioms SA.Handshake.C06_refusal_is_final_upgrade
#print axioms SA.Handshake.C06_refusal_is_final_client
#print axioms SA.Handshake.C06_refusal_is_final_client_upgrade
#print axioms SA.Handshake.C06_refused_whatever_follows
#print axioms SA.Handshake.C06_witness_continue_after_400
#print axioms SA.Handshake.C06_refusal_returns_error
