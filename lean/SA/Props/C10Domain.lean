/-
  C10, continued — the tunnel domain as configured.

  Wrapping writes the configured domain into the MX / CNAME / SRV target (`PrepareHostname`, WrapDnsResponseSrv)
  and unwrapping removes `len(domain)+2` characters; the two sides agree only if the domain comes back from
  the wire as long as it was written.  The model takes the domain as the byte string of the configuration
  (any spelling: final dot, case, one label or many, long, characters that need escaping, malformed) and the
  `dnsresp` / `dnsreq` correspondence drives every spelling class through the real code.  What the current
  code does for a domain written *fully qualified* (with its final dot) is stated here: the target gets two
  dots at its end, which is not a DNS name, so nothing is sent — a reported failure, for every name-carrying
  record type, codec, response and payload; never a decoded response.  (A change that makes one side accept
  the final dot without the other makes the client cut one character too many — that is what the monitor
  `silent difference` exhibits; this theorem is the model's side of "lossless or reported".)
-/
import SA.Props.C10
namespace SA.DnsResp
open SA.DnsWire SA.WireCodec SA.DnsReq

/-- **C10, a tunnel domain written with its final dot is a reported failure** for MX, CNAME and SRV answers:
    every codec, every response, every payload (without backslashes in the encoded stream — all selectable
    codecs but Raw/Base85/Base91… see `C10_exception`), every domain text `p` without backslashes: the outcome
    is an error from wrapping or from packing; the client never decodes anything. -/
theorem C10_fqdn_domain_reported (b32 down : Codec) (t : RRType) (ht : isName t = true)
    (p : List Nat) (r : Resp)
    (hp : ∀ c ∈ p, c ≠ bsl) (hdata : ∀ c ∈ encodeResp b32 down r, c ≠ bsl) :
    roundTrip b32 down t (p ++ [dot]) r = .encError ∨ roundTrip b32 down t (p ++ [dot]) r = .packError := by
  have hne := encodeResp_ne_nil b32 down r
  cases hw : wrap t (p ++ [dot]) (encodeResp b32 down r) with
  | none => exact .inl (roundTrip_wrap_none hw)
  | some answers =>
    right
    -- the first record already fails to pack
    obtain ⟨_, hrec⟩ := wrap_pieces t (by rintro rfl; cases ht) _ _ answers hw
    obtain ⟨n, hn⟩ : ∃ n, (encodeResp b32 down r).length = n + 1 :=
      ⟨_, (Nat.succ_pred_eq_of_pos (List.length_pos_iff.mpr hne)).symm⟩
    rw [hn, pieces, if_neg (by simpa using hne)] at hrec
    obtain ⟨rr, rest, hmk, _, rfl⟩ := recsFrom_cons hrec
    have hpack := mkRec_fqdn t ht p _ _ rr hp (fun x hx => hdata x (List.mem_of_mem_take hx)) hmk
    rw [roundTrip_wire_error (e := .pack) hw (by simp only [answersOverWire, hpack])]
    exact if_neg (by simp)

/-- non-vacuity, on a domain configured with its final dot (like "t.example.org."): "t.ex." over MX, CNAME and
    SRV with the local Base32 is a pack error in the model (as in the unchanged code), and the same domain
    without the dot round-trips -/
example : ∀ t ∈ [RRType.mx, RRType.cname, RRType.srv],
    roundTrip base32 base32 t [116, 46, 101, 120, 46] (.packet none 4660 (some (17185, [11, 48, 85, 122, 159])))
      = .packError
    ∧ roundTrip base32 base32 t [116, 46, 101, 120] (.packet none 4660 (some (17185, [11, 48, 85, 122, 159])))
      = .ok 1 17 (.packet none 4660 (some (17185, [11, 48, 85, 122, 159]))) := by decide +kernel

/-- the other record types do not look at the domain's spelling: the same response arrives -/
example : ∀ t ∈ [RRType.null, RRType.priv, RRType.txt],
    roundTrip base32 base32 t [116, 46, 101, 120, 46] (.packet none 4660 (some (17185, [11, 48, 85, 122, 159])))
      = .ok 1 17 (.packet none 4660 (some (17185, [11, 48, 85, 122, 159]))) := by decide +kernel

end SA.DnsResp

#print axioms SA.DnsResp.C10_fqdn_domain_reported
