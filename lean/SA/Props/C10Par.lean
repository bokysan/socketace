/-
  C10, continued — several responses at the same moment.

  The DNS server forms the answer to every query on that query's goroutine; all sessions share the
  downstream codec singletons (`enc.Base32Encoding … enc.RawEncoding`), `wrap.go`'s helpers, the command
  table and the serializers (plain struct values), and a client process may run several tunnel
  connections side by side.  C10 is stated per response; for it to be a property of the running server
  the response path must be a function of the one response also while others are being encoded, wrapped,
  unwrapped and decoded.

  In the model that is true by construction (`roundTrip` is a function, a batch is `List.map`); the
  theorems below put it on the books and combine it with `C10_no_silent_corruption`.  The tie to the Go
  code is the `par` op of the `dnsresp` component (G goroutines released together, the listed responses
  through the real serializer / wrap / Pack / Unpack / unwrap / Decode again and again, every result
  compared with the same response processed alone — which is what this model computes).
-/
import SA.Props.C10
import SA.Proofs.ParOp
namespace SA.DnsResp
open SA.DnsWire SA.WireCodec SA.DnsReq

/-- one answer in flight -/
structure Answer where
  down : Codec
  t : RRType
  domain : List Nat
  r : Resp

/-- the model of a batch handled concurrently, under any interleaving: the single outcomes -/
def roundTripBatch (b32 : Codec) (as : List Answer) : List Outcome :=
  as.map (fun a => roundTrip b32 a.down a.t a.domain a.r)

/-- **C10, batches are pointwise**: the outcome at any position is the outcome of that response alone,
    whatever stands before and after it -/
theorem C10_batch_pointwise (b32 : Codec) (pre post : List Answer) (a : Answer) :
    (roundTripBatch b32 (pre ++ a :: post))[pre.length]? = some (roundTrip b32 a.down a.t a.domain a.r) := by
  simp [roundTripBatch]

theorem C10_batch_index (b32 : Codec) (as : List Answer) (i : Nat) (h : i < as.length) :
    (roundTripBatch b32 as)[i]? = some (roundTrip b32 as[i].down as[i].t as[i].domain as[i].r) := by
  simp [roundTripBatch, h]

/-- **C10 for concurrent responses**: if every member of a batch meets the hypotheses of
    `C10_no_silent_corruption`, every member's client gets the response sent to it or a reported error —
    never another member's (or any other) response, never a panic. -/
theorem C10_concurrent_no_silent_corruption (b32 : Codec) (hb : b32.Good) (as : List Answer)
    (ha : ∀ a ∈ as, a.down.Good ∧ RespOk a.r ∧ questionOk a.domain = true
        ∧ SA.Bytes (encodeResp b32 a.down a.r)
        ∧ C10_exception a.t (encodeResp b32 a.down a.r) = false
        ∧ (∃ dls, isName a.t = true → DomainOk a.domain dls)
        ∧ C10_countOk a.t a.domain.length (encodeResp b32 a.down a.r).length = true) :
    ∀ i (h : i < as.length), ∃ o, (roundTripBatch b32 as)[i]? = some o ∧
      (match o with
       | .ok _ _ r' => r' = as[i].r
       | .panic => False
       | _ => True) := by
  intro i h
  obtain ⟨hd, hr, hq, hbytes, hexc, ⟨dls, hdom⟩, hcount⟩ := ha as[i] (List.getElem_mem h)
  exact ⟨_, C10_batch_index b32 as i h,
    C10_no_silent_corruption b32 as[i].down hb hd as[i].t as[i].domain dls as[i].r hr hq hbytes hexc hdom hcount⟩

/-- **the `par` op of the line protocol is the map of the single ops**, independent of the number of
    goroutines and repetitions -/
theorem C10_par_op_pointwise (g iters : String) (rest : List String)
    (hg : g.toNat?.isSome) (hi : iters.toNat?.isSome)
    (hops : (splitOps rest).all (fun o => !o.isEmpty && o.head? != some "par")) :
    handle ("par" :: g :: iters :: rest) = String.intercalate " ; " ((splitOps rest).map handleOne) := by
  simp only [handle, handleBatch, SA.par_guard_false hg hi hops, Bool.false_eq_true, if_false]

-- non-vacuity: two users' packets over different record types and codecs, each decoded as sent
example :
    let a1 : Answer := ⟨raw, .txt, [97, 46, 98], .packet none 1 (some (2, [34, 92, 0, 250, 46]))⟩
    let a2 : Answer := ⟨base32, .null, [97, 46, 98], .packet none 7 (some (9, [1, 2, 3]))⟩
    ((roundTripBatch base32 [a1, a2]).map (fun o => match o with | .ok _ _ r => some r | _ => none))
      = [some a1.r, some a2.r] := by decide +kernel

end SA.DnsResp

#print axioms SA.DnsResp.C10_batch_pointwise
#print axioms SA.DnsResp.C10_batch_index
#print axioms SA.DnsResp.C10_concurrent_no_silent_corruption
#print axioms SA.DnsResp.C10_par_op_pointwise
