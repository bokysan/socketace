/-
  C12 — DNS endpoints withstand arbitrary messages with bounded work.

  Statements about SA.Model.DnsServer (server handler, fixed code) and SA.Model.DnsServerClient (client answer decoder,
  fixed code), in which every index / slice / nil-func call of the Go code is an explicit, possibly panicking
  operation.  The codecs are a parameter (`Codec`): every theorem holds for every behaviour of Decode that is *total*
  (`Codec.Total`: Decode returns a value or an error on every input).  The models call the decoders through
  `Codec.decode`, which panics where the decoder does; `C12_decoder_panic_propagates_*` show that the hypothesis is
  necessary.  The harness ties `Total` to the real decoders (exhaustive octet / octet-pair sweep, PANIC oracle entries).

  The file holds, in this order: no panic (server, client); bounded work (fragment sizes, the chunking loop of Write);
  what a stray message, a stranger's well-formed command and a command of another address can change; coverage of the
  extracted panic sites; the communicator's handler between the socket and `onMessage` (SA.Model.DnsHandler); and, in
  namespaces of their own at the end, the package-level variables and the library's one-question filter
  (SA.Model.DnsFront).  Every statement about all messages is read off `onMessage_outcome` / `onMessage_good`
  (SA.Proofs.DnsDispatch) by cases; the witnesses are evaluated.
-/
import SA.Proofs.DnsFront
import SA.Gen.C15DnsServer
import SA.Proofs.DnsServer
import SA.Proofs.DnsServerClient
import SA.Model.DnsServerSites
import SA.Proofs.DnsServerRefine
import SA.Props.C13
import SA.Gen.PkgVars
import SA.Gen.C12Nul
import SA.Gen.C11Init

namespace SA.Props.C12
open SA.Go SA.Go.Res SA.DnsServer

/-- **server no panic**: in every state satisfying the invariant, for every codec behaviour, every tunnel domain and
    every one-question message (any name bytes, any record type, any source address) the handler returns normally
    (an answer or an error), re-establishes the invariant and touches no session of another address. -/
theorem C12_server_no_panic (cd : Codec) (hT : cd.Total) (dom : List Nat) (σ : Srv) (hI : Inv σ) (m : Msg) :
    ∃ σ' a, onMessage cd dom σ m = ok (σ', a) ∧ Inv σ' := by
  obtain ⟨σ', a, h, hI', _⟩ := onMessage_good cd hT dom hI m
  exact ⟨σ', a, h, hI'⟩

/-- … in particular after every history from a fresh listener -/
theorem C12_server_no_panic_reachable (cd : Codec) (hT : cd.Total) (dom : List Nat) (ops : List Op) (m : Msg) :
    onMessage cd dom (run cd dom Srv.init ops) m ≠ panic := by
  obtain ⟨σ', a, h, _⟩ := C12_server_no_panic cd hT dom _ (SA.Props.C13.C13_reachable_invariant cd hT dom ops) m
  rw [h]; intro h'; cases h'

/-- **client no panic**: for every answer section (no records, records shorter than their order tag, mixed types, names
    shorter than the domain, any data bytes) and every codec behaviour the client decoder returns normally. -/
theorem C12_client_no_panic (cd : Codec) (hT : cd.Total) (domLen down : Nat) (rrs : List SA.DnsClient.RR) :
    SA.DnsClient.decodeAnswer cd domLen down rrs ≠ panic := by
  obtain ⟨r, h⟩ := SA.DnsClient.decodeAnswer_no_panic cd hT domLen down rrs
  rw [h]; intro h'; cases h'

/-- a decoder that panics on every input, for the witnesses below -/
def panickyCodec : Codec := { dec := fun _ _ => none, encLen := fun _ n => n, panics := fun _ _ => true }

/-- **the totality hypothesis is necessary (server)**: with a decoder that panics, one version request
    ("vabc<body>.t.co.") from a fresh listener kills the handler — exactly what happens in the Go process, where
    miekg/dns does not recover. -/
theorem C12_decoder_panic_propagates_server :
    onMessage panickyCodec [116, 46, 99, 111] Srv.init
      { addr := 1, qtype := 5, name := [118, 97, 98, 99, 97, 97, 46, 116, 46, 99, 111, 46], hint := 84 } = panic := by
  decide

/-- **the totality hypothesis is necessary (client)**: one NULL answer whose data starts with the error-response
    letter makes the client decoder panic when the downstream decoder does. -/
theorem C12_decoder_panic_propagates_client :
    SA.DnsClient.decodeAnswer panickyCodec 4 84 [.null [1, 0, 101, 97, 97]] = panic := by
  decide

/-! ## bounded work -/

/-- **bounded work (1)**: in every reachable state every session's downstream fragment size — the chunk size of the
    server-side Write loop — is between 1 and MaxDownstreamFragmentSize, whatever sizes clients asked for. -/
theorem C12_bounded_work_fragment_range (cd : Codec) (hT : cd.Total) (dom : List Nat) (ops : List Op) (sid : Nat)
    (h : sid < (run cd dom Srv.init ops).heap.length) :
    1 ≤ ((run cd dom Srv.init ops).sess sid).frag ∧
    ((run cd dom Srv.init ops).sess sid).frag ≤ SA.Gen.maxDownstreamFragmentSize :=
  (SA.Props.C13.C13_reachable_invariant cd hT dom ops).fragOk sid h

/-- **bounded work (2)**: with a chunk size of at least 1 the chunking loop of OutQueue.Write consumes the whole
    buffer within |b| iterations and produces at most |b| chunks (with chunk size 0 — which setOptionsRequest accepted
    before the fix — the Go loop never terminates). -/
theorem C12_bounded_work_write_loop (mtu : Nat) (hm : 1 ≤ mtu) (b : List Nat) :
    (chunks b.length mtu b).flatten = b ∧ (chunks b.length mtu b).length ≤ b.length :=
  chunks_eq' mtu b ▸ ⟨SA.Queue.chunks_flatten hm b, SA.Queue.chunks_length_le hm b⟩

/-- **bounded work (3)**: a fragment-size test is answered with at most MaxDownstreamFragmentSize bytes of filler,
    whatever 32-bit size the client sent (before the fix: up to 4 GiB allocated, filled and encoded). -/
theorem C12_bounded_work_fragment_test (cd : Codec) (dl : Nat) (σ σ' : Srv) (m : Msg) (uid size n : Nat)
    (h : hFragTest cd dl σ m uid size = ok (σ', .frag n)) : n ≤ SA.Gen.maxDownstreamFragmentSize := by
  -- an error answer is no `.frag`; the one `.frag` answer is given under the size test
  have noErr : ∀ {c p code x : Nat} {e : String}, errAns cd m dl c p code x e ≠ .frag n := fun he => by
    rcases errAns_cases cd m dl _ _ _ _ _ with e | e <;> rw [e] at he <;> cases he
  have h : handleReq cd dl σ m (.fragTest uid size) = ok (σ', .frag n) := h
  cases hv : validate σ uid m.addr with
  | panic => simp only [handleReq, hFragTest, hv, Res.bind_panic, reduceCtorEq] at h
  | ok r =>
    obtain ⟨σ1, user, e⟩ := r
    cases validate_vres hv with
    | ok s =>
      -- the validated owner: `handleReq_fragTest`
      rw [handleReq_fragTest hv] at h
      injection h with h; injection h with _ h
      split at h
      · exact absurd h noErr
      · rcases finish_cases cd m dl 1 ((touch σ s).sess s).down (5 + size) (.frag size) with e | e <;> rw [e] at h <;> cases h
        omega
    | _ =>
      -- anybody else: `handleReq_refused`
      obtain ⟨_, _, he⟩ := handleReq_refused (cd := cd) (dl := dl) (q := .fragTest uid size) rfl hv (by decide)
      rw [he] at h
      injection h with h; injection h with _ h
      exact absurd h noErr

/-! ## stray messages -/

/-- **stray messages preserve sessions**: a message whose name selects no command, or a reserved command letter, or
    whose header does not decode, changes nothing at all; a message whose body does not decode changes at most the
    last-contact time of a session *of the sending address*.  (Messages from an address that does not own the named
    session and messages naming an identifier without live session change nothing either: C13_spoof_rejected,
    C13_closed_id_inert; sessions of other addresses are never changed by any message: C13_foreign_message_preserves.) -/
theorem C12_stray_preserves_sessions (cd : Codec) (dom : List Nat) (σ : Srv) (hI : Inv σ) (m : Msg) (request : List Nat)
    (hs : stripDomain m.name dom = ok request) :
    (findCmd SA.Gen.commandTable request = ok none → ∃ a, onMessage cd dom σ m = ok (σ, a)) ∧
    (∀ code nu r, findCmd SA.Gen.commandTable request = ok (some (code, nu, false, r)) →
        ∃ a, onMessage cd dom σ m = ok (σ, a)) ∧
    (∀ code nu r, findCmd SA.Gen.commandTable request = ok (some (code, nu, true, r)) →
        decodeHeader nu request = ok none → onMessage cd dom σ m = ok (σ, .ignored)) ∧
    (∀ code nu r rest uid σ1 user e, findCmd SA.Gen.commandTable request = ok (some (code, nu, true, r)) →
        decodeHeader nu request = ok (some (rest, uid)) → validate σ uid m.addr = ok (σ1, user, e) →
        decodeRequest cd code nu true (upOf σ1 user) request = ok none →
        (∃ a, onMessage cd dom σ m = ok (σ1, a)) ∧
        (σ1 = σ ∨ ∃ s, (σ.sess s).owner = m.addr ∧ σ1 = touch σ s)) := by
  refine ⟨fun hc => ?_, fun code nu r hc => ?_, fun code nu r hc hh => ?_, fun code nu r rest uid σ1 user e hc hh hv hq => ⟨?_, ?_⟩⟩
  · rw [onMessage_eq, route_noCmd hs hc]; exact ⟨_, rfl⟩
  · rw [onMessage_eq, route_reserved hs hc]; exact ⟨_, rfl⟩
  · rw [onMessage_eq, route_badHeader hs hc hh]
  · rw [onMessage_eq, route_of hs hc hh]
    -- the two short-cuts of `dispatch` and BADCODEC all answer from the state `validateAndGetUser` left
    simp only [dispatch, hv, hq, Res.bind_ok]
    split
    · exact ⟨_, rfl⟩
    · split <;> exact ⟨_, rfl⟩
  · cases (validate_vres hv).seen with
    | same => exact .inl rfl
    | touched _ s _ ho => exact .inr ⟨s, ho, rfl⟩

/-! ## well-formed commands that do not belong

  `C12_stray_preserves_sessions` is about messages that are not tunnel commands.  The statements below are about
  messages that ARE: every command letter, every identifier, every flag and field combination — sent by an address
  that is not the owner of the session they name. -/

/-- regenerated fact: in each of the four handlers of a session-bound command (packet, set-options, fragment-size
    test, upstream-codec test) the statement after `…, err := s.validateAndGetUser(…)` is
    `if err != nil { resp.Err = err } else …` — nothing the request carries (close flag, options, payload,
    acknowledgement) is acted on before the sender has been validated as the owner (the model's
    `match user, e with | some s, .ok => …`).  Fails to compile when a handler looks at the request first. -/
theorem C12_handlers_refuse_before_acting :
    SA.Gen.handlerRefusesFirst.map (·.1) = ["packet", "setOptionsRequest", "testDownstreamFragmentSize", "testUpstreamEncoder"] ∧
    SA.Gen.handlerRefusesFirst.all (·.2) = true := ⟨rfl, rfl⟩

/-- **a stranger's commands are inert**: an address that owns no live session — whatever it sends: any command
    letter, any identifier (of a live session, of a retired one, never issued), the close flag, codec and fragment
    size options, payload, acknowledgements, well-formed or not — leaves the WHOLE server state as it was (tables,
    every session object, clock); the only thing it can do is open a session of its own with a version request
    (`newUser`: a free slot, a new object, see `C13_open_returns_free_id`).  Every state, every codec. -/
theorem C12_stranger_commands_inert (cd : Codec) (dom : List Nat) (σ σ' : Srv) (m : Msg) (a : Ans)
    (hstranger : ∀ i sid : Nat, σ.live[i]? = some (some sid) → (σ.sess sid).owner ≠ m.addr)
    (h : onMessage cd dom σ m = ok (σ', a)) :
    σ' = σ ∨ ∃ uid, newUser σ m.addr = (σ', some uid) := by
  -- `validateAndGetUser` touches no session for this sender
  have same : ∀ {σ1}, Seen m.addr σ σ1 → σ1 = σ := fun h => by
    cases h with
    | same => rfl
    | touched i s hl ho => exact absurd ho (hstranger i s hl)
  cases onMessage_outcome cd dom σ m with
  | answered _ _ h1 _ e => rw [h] at e; cases e; exact .inl (same h1)
  | opened _ _ _ h1 hn e => rw [h] at e; cases e; exact .inr ⟨_, same h1 ▸ hn⟩
  | acted _ hl ho => exact absurd ho (hstranger _ _ hl)
  | crashed e => rw [h] at e; cases e

/-- … hence the rest of the history is what it would have been without the message: a stranger's message that
    creates no session object can be deleted from any history without changing the state any later message (of the
    established sessions' owners, of anybody) meets — the statement the harness checks on the real server by running
    every history a second time without such messages. -/
theorem C12_stranger_message_deletable (cd : Codec) (dom : List Nat) (σ : Srv) (m : Msg) (rest : List Op)
    (hstranger : ∀ i sid : Nat, σ.live[i]? = some (some sid) → (σ.sess sid).owner ≠ m.addr)
    (hnoopen : ∀ σ' a, onMessage cd dom σ m = ok (σ', a) → σ'.heap.length = σ.heap.length) :
    run cd dom σ (.msg m :: rest) = run cd dom σ rest := by
  have hstep : step cd dom σ (.msg m) = σ := by
    cases hm : onMessage cd dom σ m with
    | panic => simp [step, stepAns, hm]
    | ok r =>
      obtain ⟨σ', a⟩ := r
      rw [step_msg hm]
      rcases C12_stranger_commands_inert cd dom σ σ' m a hstranger hm with e | ⟨uid, e⟩
      · exact e
      · have hlen := hnoopen σ' a hm
        rcases newUser_cases e with hc | ⟨i, _, _, hc⟩
        · exact hc.1
        · rw [hc, heap_length_storeSlot] at hlen; omega
  unfold run
  rw [List.foldl_cons, hstep]

/-- **no command from another address disturbs an established session** (every sender, also one that owns other
    sessions): for every message and every session object owned by another address — the object is byte-for-byte
    unchanged (queues, sequence and acknowledgement numbers, codecs, options, closed flag, last-contact time) and
    still live in its slot; and when the message carries the identifier of that session (a spoofed close, option
    change, packet, test), NOTHING in the server changed and the sender was told BADIP (or BADCODEC, or nothing).
    Reuses `C13_foreign_message_preserves` and `C13_spoof_rejected`. -/
theorem C12_foreign_command_preserves_established (cd : Codec) (hT : cd.Total) (dom : List Nat) (σ : Srv) (hI : Inv σ) (m : Msg)
    (i sid : Nat) (hlive : σ.live[i]? = some (some sid)) (hforeign : (σ.sess sid).owner ≠ m.addr) :
    ∃ σ' a, onMessage cd dom σ m = ok (σ', a) ∧ σ'.sess sid = σ.sess sid ∧ σ'.live[i]? = some (some sid) ∧
      (SA.Props.C13.msgUid dom m = some i → σ' = σ ∧
        (a = .drop ∨ a = .err 101 SA.Gen.errBadCodec ∨ ∃ c, a = .err c SA.Gen.errBadIp)) := by
  have hs : sid < σ.heap.length := (hI.liveOk i sid hlive).1
  obtain ⟨σ', a, h, _, hse, hlk⟩ := SA.Props.C13.C13_foreign_message_preserves cd hT dom σ hI m sid hs hforeign
  refine ⟨σ', a, h, hse, hlk i hlive, ?_⟩
  intro hid
  obtain ⟨a', h', ha'⟩ := SA.Props.C13.C13_spoof_rejected cd hT dom σ m i sid hid hlive hforeign
  rw [h] at h'
  injection h' with h'
  injection h' with h1 h2
  subst h1; subst h2
  exact ⟨rfl, ha'⟩

end SA.Props.C12

namespace SA.DnsServer
open SA.Go SA.Go.Res

/-- set-options with the close request looked at before the verdict of validateAndGetUser (not today's code, which
    refuses first): `if user != nil && closed { closeConnection(user) } else if err != nil …` -/
def hOptionsCloseFirst (cd : Codec) (domLen : Nat) (σ : Srv) (m : Msg) (uid : Nat) (o : Options) : Res (Srv × Ans) := do
  let (σ1, user, e) ← validate σ uid m.addr
  match user with
  | some s =>
    if o.closed = some true then do
      let σ2 ← closeConnection σ1 s
      pure (σ2, finish cd m domLen 1 84 1 .optionsOk)
    else hOptions cd domLen σ m uid o
  | none => pure (σ1, errAns cd m domLen 111 1 84 1 (vErrName e))

end SA.DnsServer

namespace SA.Props.C12
open SA.Go SA.Go.Res SA.DnsServer

/-- a two-slot server: address 1 holds identifier 0 (object 0), nobody holds identifier 1 -/
def twoSlots : Srv :=
  { live := [some 0, none], retired := [none, none], heap := [{ uid := 0, owner := 1, last := 0 }], now := 5 }

/-! **witness**: if set-options handled the close flag before looking at the validation error (the variant
    `hOptionsCloseFirst`), a close request from address 2 for identifier 0 would retire the session of address 1
    and be answered with success; today's `hOptions` leaves the state alone and answers BADIP.  Kernel-checked. -/

def wCodec : Codec := { dec := fun _ _ => none, encLen := fun _ n => n }
def wClose : Options := { closed := some true }
def wFrom2 : Msg := { addr := 2, qtype := 10, name := [] }

theorem C12_witness_close_before_refusal :
    (hOptionsCloseFirst wCodec 4 twoSlots wFrom2 0 wClose).isPanic = false ∧
    (SA.Props.C13.stateOf (hOptionsCloseFirst wCodec 4 twoSlots wFrom2 0 wClose)).live = [none, none] ∧
    (SA.Props.C13.stateOf (hOptionsCloseFirst wCodec 4 twoSlots wFrom2 0 wClose)).retired = [some 0, none] ∧
    ((SA.Props.C13.stateOf (hOptionsCloseFirst wCodec 4 twoSlots wFrom2 0 wClose)).sess 0).closed = true ∧
    SA.Props.C13.ansOf (hOptionsCloseFirst wCodec 4 twoSlots wFrom2 0 wClose) = some .optionsOk ∧
    hOptions wCodec 4 twoSlots wFrom2 0 wClose = ok (twoSlots, .err 111 SA.Gen.errBadIp) := by
  decide

/-! ## site coverage -/

/-- **site coverage**: every index / slice / unchecked type assertion / func-field call that the extractor finds in the
    server handler, the command decoders and the record (un)wrapping is one the models account for
    (SA.Model.DnsServerSites).  A new or re-shaped site in those functions breaks this obligation. -/
theorem C12_site_coverage : ∀ s ∈ SA.Gen.panicSites, s ∈ coveredSites := by
  have h : (SA.Gen.panicSites.all fun s => coveredSites.contains s) = true := by decide +kernel
  exact fun s hs => List.contains_iff_mem.mp (List.all_eq_true.mp h s hs)

/-! ## between the socket and onMessage: the communicator's handler -/

/-- regenerated shape of `NetConnectionServerCommunicator.handleRequest`: every read of `resp` is dominated by a test of
    the error onMessage returned next to it (or of `resp` itself) … -/
theorem C12_handler_resp_uses_dominated : ∀ u ∈ SA.Gen.c12HandlerRespUses, u.2 = true := by decide

theorem gen_handlerErrReturns : SA.Gen.c12HandlerErrReturns = true := rfl

/-- … the `if err != nil` block after the onMessage call leaves the function, and this is the function registered with
    miekg/dns -/
theorem C12_handler_err_branch_returns :
    SA.Gen.c12HandlerErrReturns = true ∧ SA.Gen.c12HandlerRegistered = true ∧ SA.Gen.c12HandlerRespUses ≠ [] :=
  ⟨gen_handlerErrReturns, rfl, by decide⟩

/-- a handler that returns on error never dereferences a missing response, whatever onMessage answered: it sends
    nothing exactly when there was an error and writes the response otherwise -/
theorem handleRet_returns (a : Ans) (tsig : Bool) :
    handleRet true (retOf a) tsig = ok (if (retOf a).err then .nothing else .wrote tsig) := by
  cases a <;> simp [handleRet, retOf]

/-- **no message makes the handler dereference a missing response**: for every total codec, every state satisfying the
    invariant, every one-question message and either TSIG status, the path socket → handleRequest → onMessage →
    handleRequest → WriteMsg returns normally: an answer was written, or (error) nothing at all was sent; the state is
    the one onMessage left, with the invariant re-established. -/
theorem C12_handler_no_missing_response_deref (cd : Codec) (hT : cd.Total) (dom : List Nat) (σ : Srv) (hI : Inv σ) (m : Msg)
    (tsig : Bool) :
    ∃ σ' a, onMessage cd dom σ m = ok (σ', a) ∧ Inv σ' ∧
      serve cd dom σ m tsig = ok (σ', a, if (retOf a).err then .nothing else .wrote tsig) := by
  obtain ⟨σ', a, h, hI'⟩ := C12_server_no_panic cd hT dom σ hI m
  refine ⟨σ', a, h, hI', ?_⟩
  simp only [serve, serveWith, gen_handlerErrReturns, h, bind_ok, handleRet_returns, pure_eq]

/-- … in particular after every history from a fresh listener -/
theorem C12_handler_no_panic_reachable (cd : Codec) (hT : cd.Total) (dom : List Nat) (ops : List Op) (m : Msg) (tsig : Bool) :
    serve cd dom (run cd dom Srv.init ops) m tsig ≠ panic := by
  obtain ⟨σ', a, _, _, h⟩ := C12_handler_no_missing_response_deref cd hT dom _
    (SA.Props.C13.C13_reachable_invariant cd hT dom ops) m tsig
  rw [h]; intro h'; cases h'

/-- the handler does not change what onMessage did to the sessions: C12_stray_preserves_sessions,
    C12_stranger_commands_inert, C12_foreign_command_preserves_established carry over to the served path -/
theorem C12_handler_state_from_onMessage (er : Bool) (cd : Codec) (dom : List Nat) (σ σ' : Srv) (m : Msg) (tsig : Bool) (a : Ans) (s : Sent)
    (h : serveWith er cd dom σ m tsig = ok (σ', a, s)) : onMessage cd dom σ m = ok (σ', a) := by
  unfold serveWith at h
  cases ho : onMessage cd dom σ m with
  | panic => rw [ho] at h; cases h
  | ok p =>
    obtain ⟨σ1, a1⟩ := p
    rw [ho] at h
    simp only [bind_ok] at h
    cases hh : handleRet er (retOf a1) tsig with
    | panic => rw [hh] at h; cases h
    | ok s1 => rw [hh] at h; simp only [bind_ok, pure_eq] at h; cases h; rfl

/-- **the early return is necessary** (kernel-checked): a handler that goes on after the error ("answers SERVFAIL on the
    reply header that is there already") is killed by one ordinary lookup, `c.t.co.` from a stranger, on a fresh
    listener: the request header cannot be decoded, onMessage returns `(nil, err)` … -/
theorem C12_witness_handler_falls_through :
    ansOf (onMessage { dec := fun _ _ => none, encLen := fun _ n => n } [116, 46, 99, 111] Srv.init
        { addr := 3, qtype := 1, name := [99, 46, 116, 46, 99, 111, 46], hint := 84 }) = some .ignored ∧
    serveWith false { dec := fun _ _ => none, encLen := fun _ n => n } [116, 46, 99, 111] Srv.init
        { addr := 3, qtype := 1, name := [99, 46, 116, 46, 99, 111, 46], hint := 84 } false = panic ∧
    -- … while the case its author would try (an answer that cannot be wrapped: `(msg, err)`) goes well
    handleRet false (retOf .drop) false = ok (.wrote false) := by
  refine ⟨by decide, by decide, by decide⟩

/-- the command table still contains the reserved commands without constructors that the guards are about -/
theorem C12_reserved_commands_present :
    (SA.Gen.commandTable.filter fun c => !c.2.2.1).map (·.1) = [108, 109, 101] := by decide

def mailName : List Nat := [109, 97, 105, 108, 46, 116, 46, 99, 111, 46]   -- "mail.t.co."
def tco : List Nat := [116, 46, 99, 111]

example : stripDomain mailName tco = ok [109, 97, 105, 108] := by decide
example : findCmd SA.Gen.commandTable [109, 97, 105, 108] = ok (some (109, false, false, false)) := by decide
example : stripDomain [97, 92, 46, 116, 46, 99, 111, 46] tco = ok [97] := by decide   -- "a\.t.co." : dangling backslash
example : decodeHeader true [99, 97] = ok none := by decide                           -- "ca"
example : SA.DnsClient.decodeAnswer { dec := fun _ _ => none, encLen := fun _ n => n } 4 84 [] = ok none := by decide
example : SA.DnsClient.decodeAnswer { dec := fun _ _ => none, encLen := fun _ n => n } 4 84 [.txt [], .null [1], .cname [97]] = ok none := by decide
example : chunks 3 1 [7, 8, 9] = [[7], [8], [9]] := by decide
-- the three kinds of return of onMessage all occur: (nil, err), (msg, err), (msg, nil)
example : retOf .ignored = ⟨false, true⟩ ∧ retOf .drop = ⟨true, true⟩ ∧ retOf .optionsOk = ⟨true, false⟩ := by decide
example : handleRequest (retOf .ignored) true = ok .nothing ∧ handleRequest (retOf (.version 0)) true = ok (.wrote true) := by decide
example : ({ dec := fun _ _ => none, encLen := fun _ n => n } : Codec).Total := fun _ _ => rfl   -- the hypothesis is satisfiable
-- the hypothesis of `C12_stranger_commands_inert` is met by address 2 on `twoSlots`, and not by address 1
example : (∀ i sid : Nat, twoSlots.live[i]? = some (some sid) → (twoSlots.sess sid).owner ≠ 2) := by
  intro i sid h
  match i, h with
  | 0, h => simp [twoSlots] at h; subst h; decide
  | 1, h => simp [twoSlots] at h
  | n + 2, h => simp [twoSlots] at h
example : twoSlots.live[0]? = some (some 0) ∧ (twoSlots.sess 0).owner = 1 := by decide
example : ¬ panickyCodec.Total := fun h => by have := h 0 []; simp [panickyCodec] at this

end SA.Props.C12

#print axioms SA.Props.C12.C12_server_no_panic
#print axioms SA.Props.C12.C12_server_no_panic_reachable
#print axioms SA.Props.C12.C12_client_no_panic
#print axioms SA.Props.C12.C12_decoder_panic_propagates_server
#print axioms SA.Props.C12.C12_decoder_panic_propagates_client
#print axioms SA.Props.C12.C12_bounded_work_fragment_range
#print axioms SA.Props.C12.C12_bounded_work_write_loop
#print axioms SA.Props.C12.C12_bounded_work_fragment_test
#print axioms SA.Props.C12.C12_stray_preserves_sessions
#print axioms SA.Props.C12.C12_handlers_refuse_before_acting
#print axioms SA.Props.C12.C12_stranger_commands_inert
#print axioms SA.Props.C12.C12_stranger_message_deletable
#print axioms SA.Props.C12.C12_foreign_command_preserves_established
#print axioms SA.Props.C12.C12_witness_close_before_refusal
#print axioms SA.Props.C12.C12_site_coverage
#print axioms SA.Props.C12.C12_reserved_commands_present
#print axioms SA.Props.C12.C12_handler_resp_uses_dominated
#print axioms SA.Props.C12.C12_handler_err_branch_returns
#print axioms SA.Props.C12.C12_handler_no_missing_response_deref
#print axioms SA.Props.C12.C12_handler_no_panic_reachable
#print axioms SA.Props.C12.C12_handler_state_from_onMessage
#print axioms SA.Props.C12.C12_witness_handler_falls_through

namespace SA.PkgState
/-- **no_hidden_process_state**: the models of this property are functions of their arguments and of the objects they are
    handed; the packages they model keep no package-level variables besides these (regenerated inventory: error
    sentinels, tables, compiled patterns, the two session time-outs).  A new package-level variable — a counter, a cache, a
    scratch buffer, a shared map, a registry — would make later calls depend on earlier ones, or concurrent calls on each
    other, outside anything a per-call comparison of model and code can see. -/
theorem C12_no_hidden_process_state :
    Gen.pkgVarNames_dns = ["ConnectionTimeout", "ErrConnectionFailed", "ErrHandshakeNotCompleted", "OldConnectionTimeout"] ∧
    Gen.pkgVarNames_dnscommands = ["BadCodec", "BadCommand", "BadConn", "BadErrors", "BadFrag", "BadIp", "BadLen", "BadServerFull", "BadUser", "BadVersion", "CmdError", "CmdLogin", "CmdPacket", "CmdSetOptions", "CmdTestDownstreamEncoder", "CmdTestDownstreamFragmentSize", "CmdTestMultiQuery", "CmdTestUpstreamEncoder", "CmdVersion", "Commands", "Digits", "ErrTimeout", "LazyModeOk", "NoData", "VersionNotOk", "VersionOk"] := ⟨rfl, rfl⟩
end SA.PkgState

#print axioms SA.PkgState.C12_no_hidden_process_state

namespace SA.PkgState
/-- **client_decoders_reject_nul_and_have_a_codec**: two facts about the client that its robustness against answers rests
    on (regenerated).  (1) Every response decoder that reads an error text treats a NUL inside it as a malformed answer
    — without that guard the read's nil error was passed on, the answer counted as decoded with no error recorded, and
    the version exchange then asserted an `e` answer to be a version response.  (2) A new client has a downstream codec
    from the start (the server's default) — without one, an answer of a type that carries encoded data made the client
    call a nil codec.  Both were client crashes on the unrepaired tree (`dnsfuzz clihs … v 1 656161`, `… v 1 63616263`). -/
theorem C12_client_decoders_reject_nul_and_have_a_codec :
    Gen.errTextNulRejected = true ∧ Gen.errTextReads = 6 ∧ Gen.c11ClientInitialDown = "Base32" := ⟨rfl, rfl, rfl⟩
end SA.PkgState

#print axioms SA.PkgState.C12_client_decoders_reject_nul_and_have_a_codec

namespace SA.DnsFront
/-- **only_single_question_queries_reach_the_handler**: with the library's default accept function every message that
    reaches the handler is recomposed without a fault, whatever its names are — for all messages. -/
theorem C12_accepted_messages_compose (m : Msg) (h : acceptedByDefault m = true) : (composeRequest m).isSome = true :=
  accepted_compose m h

/-- the code keeps the default: the only fields of the library's Server object it sets are the address, the network, the
    TLS configuration and the handler table (regenerated) — no accept function of its own -/
theorem C12_dns_server_keeps_default_filter :
    Gen.dnsServerFieldsSet = ["Addr", "Handler", "Net", "TLSConfig"] := rfl

/-- witness: an accept function without the one-question rule lets through messages that kill the process (two root
    questions; no question at all) -/
theorem C12_witness_multi_question :
    acceptedAnyCount ⟨true, [[46], [46]]⟩ = true ∧ composeRequest ⟨true, [[46], [46]]⟩ = none ∧
    acceptedAnyCount ⟨true, []⟩ = true ∧ composeRequest ⟨true, []⟩ = none ∧
    acceptedByDefault ⟨true, [[46], [46]]⟩ = false ∧ acceptedByDefault ⟨true, []⟩ = false := by decide
end SA.DnsFront

#print axioms SA.DnsFront.C12_accepted_messages_compose
#print axioms SA.DnsFront.C12_dns_server_keeps_default_filter
#print axioms SA.DnsFront.C12_witness_multi_question
