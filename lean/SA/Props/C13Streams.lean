/-
  C13 ∘ C07 — each session's byte streams contain only its own peer's data.

  The multi-session server model (SA.Model.DnsServer / DnsSessions) holds one InQueue / OutQueue pair per session
  object.  `sessTrace cd dom sid ops` (SA.Model.DnsSessTrace) projects a history onto one session object: the packet
  requests that (a) carry the identifier of the live slot holding `sid`, (b) come from `sid`'s owner address, (c) are
  processed while `sid` is live — and the application Writes on `sid`.  After ANY history the queue pair of `sid` is the
  fold of `qstep` over that trace, and `qstep` IS the server end of the two-endpoint model of C07 (`serve`, `addChunk`
  with the regenerated facts `Cfg.gen`): hence, when the owner's packet requests are those of a C07 client, C07's
  theorems hold for session `sid` inside the multi-session server, whatever the rest of the history does; and with an
  arbitrary owner the bytes in `sid`'s queues still come from its own trace only.
-/
import SA.Props.C07
import SA.Proofs.DnsServerQueues
import SA.Proofs.DnsServerRefine
import SA.Proofs.DnsServerProv

namespace SA.Props.C13
open SA.Go SA.Go.Res SA.DnsServer

/-! ## the queue pair of a session object is a function of its own trace -/

theorem init_q (sid : Nat) : (Srv.init.sess sid).q = (({} : InQ), ({} : OutQ)) := rfl

/-- **own trace only**: in every history of the multi-session server (messages of any content from any address,
    application Close / Write on any object, clock, pruning), the InQueue / OutQueue of session object `sid` is the
    result of applying, to empty queues, exactly the events of `sessTrace … sid`: the packet requests that carried the
    identifier of `sid`'s live slot, came from `sid`'s owner and were processed while `sid` was live, and the Writes of
    the application on `sid`. -/
theorem C13_session_queues_own_trace (cd : Codec) (hT : cd.Total) (dom : List Nat) (ops : List Op) (sid : Nat) :
    ((run cd dom Srv.init ops).sess sid).q = (sessTrace cd dom sid ops).foldl qstep (({} : InQ), ({} : OutQ)) := by
  rw [← init_q sid]
  exact (trace_from cd hT dom sid ops init_inv).1

/-- hence two histories that agree on the trace of `sid` leave it with the same queues, whatever else they contain -/
theorem C13_same_trace_same_queues (cd : Codec) (hT : cd.Total) (dom : List Nat) (ops ops' : List Op) (sid sid' : Nat)
    (h : sessTrace cd dom sid ops = sessTrace cd dom sid' ops') :
    ((run cd dom Srv.init ops).sess sid).q = ((run cd dom Srv.init ops').sess sid').q := by
  rw [C13_session_queues_own_trace cd hT, C13_session_queues_own_trace cd hT, h]

/-! ## the answers to the owner's packet requests -/

/-- **answers**: the answers the server gives to the packet requests of the trace of `sid` (the only answers that carry
    bytes of `sid`'s outgoing stream) are, one by one, what `packet` computes from `sid`'s own queues along its own trace
    (`pktAns`), or nothing (dropped by the response wrapping). -/
theorem C13_answers_own_trace (cd : Codec) (hT : cd.Total) (dom : List Nat) (ops : List Op) (sid : Nat) :
    Pointwise (fun a x => a = .drop ∨ a = x) (ansTrace cd dom sid ops)
      (expectedAns (({} : InQ), ({} : OutQ)) (sessTrace cd dom sid ops)) := by
  rw [← init_q sid]
  exact (trace_from cd hT dom sid ops init_inv).2

/-! ## the session object is the server end of C07's two-endpoint model -/

open SA.Queue in
/-- **refinement**: let `evs` be any history of the two-endpoint model of C07 (starting sequence numbers 0, as for a
    fresh session) without application reads / forged packets at endpoint B, and let the trace of session object `sid`
    in the multi-session history `ops` be what reaches B in `evs` (`bTrace`, ghost fields erased).  Then the queue pair
    of `sid` is endpoint B: same next numbers, same future list, same duplicate / acknowledgement caches, same
    out-queue, and its in-buffer is everything B has released. -/
theorem C13_session_refines_queue_endpoint (cd : Codec) (hT : cd.Total) (hB : cd.Bytes) (dom : List Nat) (ops : List Op)
    (sid : Nat) (mtu : Nat) (evs : List Ev) (hplain : ∀ e ∈ evs, plainB e = true)
    (hpeer : sessTrace cd dom sid ops = (bTrace Cfg.gen mtu (init 0 0) evs).map eraseB) :
    R ((run cd dom Srv.init ops).sess sid).q (runS Cfg.gen mtu (init 0 0) evs).b ∧
    expectedAns (({} : SA.DnsServer.InQ), ({} : SA.DnsServer.OutQ)) (sessTrace cd dom sid ops)
      = (respTrace Cfg.gen (init 0 0).b (bTrace Cfg.gen mtu (init 0 0) evs)).map ansOfResp := by
  have hseq : ∀ x ∈ bTrace Cfg.gen mtu (init 0 0) evs, SeqOk (eraseB x) := by
    intro x hx
    apply seqOk_trace_from cd hB dom sid ops Srv.init
    show eraseB x ∈ sessTrace cd dom sid ops
    rw [hpeer]; exact List.mem_map_of_mem hx
  have hsim := trace_sim _ _ _ init_R hseq
  rw [C13_session_queues_own_trace cd hT, hpeer, bstep_run Cfg.gen mtu evs _ hplain]
  exact hsim

open SA.Queue in
/-- **streams only own peer** (C13 composed with C07).  Take ANY history `ops` of the multi-session server and any
    session object `sid`.  Suppose the packet requests that carried `sid`'s identifier from `sid`'s owner while `sid` was
    live, together with the application's Writes on `sid`, are what a C07 client produces: there is a well-bounded
    two-endpoint history `evs` (exchanges delivered, lost either way, duplicated, replayed up to K exchanges late) whose
    B-side trace is `sid`'s trace.  Nothing is assumed about the rest of `ops`.  Then

    1. the bytes released to the reader of `sid`'s connection object are a prefix of the bytes the client application
       wrote (no gap, repeat, reordering — and no byte of any other session or address);
    2. the bytes the client has released are a prefix of the bytes the server application wrote to `sid`'s connection
       object (`writtenOf` the trace) — no byte written to another session's object;
    3. both are equalities once the respective out-queue is empty;
    4. every answer the server gave to those packet requests is the response the C07 endpoint computes, or nothing. -/
theorem C13_streams_only_own_peer (cd : Codec) (hT : cd.Total) (hB : cd.Bytes) (dom : List Nat) (ops : List Op)
    (sid : Nat) (mtu K Bd : Nat) (evs : List Ev) (hwb : WellBounded Cfg.gen mtu K Bd evs)
    (hplain : ∀ e ∈ evs, plainB e = true)
    (hpeer : sessTrace cd dom sid ops = (bTrace Cfg.gen mtu (init 0 0) evs).map eraseB) :
    ((run cd dom Srv.init ops).sess sid).inq.buf <+: (runS Cfg.gen mtu (init 0 0) evs).a.acc ∧
    (runS Cfg.gen mtu (init 0 0) evs).a.inq.rel <+: writtenOf (sessTrace cd dom sid ops) ∧
    ((runS Cfg.gen mtu (init 0 0) evs).a.outq.out = [] →
      ((run cd dom Srv.init ops).sess sid).inq.buf = (runS Cfg.gen mtu (init 0 0) evs).a.acc) ∧
    (((run cd dom Srv.init ops).sess sid).outq.out = [] →
      (runS Cfg.gen mtu (init 0 0) evs).a.inq.rel = writtenOf (sessTrace cd dom sid ops)) ∧
    Pointwise (fun a r => a = .drop ∨ a = ansOfResp r) (ansTrace cd dom sid ops)
      (respTrace Cfg.gen (init 0 0).b (bTrace Cfg.gen mtu (init 0 0) evs)) := by
  obtain ⟨⟨hin, hout⟩, hans⟩ := C13_session_refines_queue_endpoint cd hT hB dom ops sid mtu evs hplain hpeer
  have hsafe := C07_safety 0 0 mtu K Bd evs (by decide) (by decide) hwb
  have hdel := C07_write_ok_delivered 0 0 mtu K Bd evs (by decide) (by decide) hwb
  have hacc : (runS Cfg.gen mtu (init 0 0) evs).b.acc = writtenOf (sessTrace cd dom sid ops) := by
    rw [bstep_run Cfg.gen mtu evs _ hplain, acc_trace, hpeer]
    simp [init, End.acc]
  have hbuf : ((run cd dom Srv.init ops).sess sid).inq.buf = (runS Cfg.gen mtu (init 0 0) evs).b.inq.rel := hin.buf
  have hout : ((run cd dom Srv.init ops).sess sid).outq.out = (runS Cfg.gen mtu (init 0 0) evs).b.outq.out.map ofPkt :=
    hout.out
  refine ⟨by rw [hbuf]; exact hsafe.1, by rw [← hacc]; exact hsafe.2, ?_, ?_, ?_⟩
  · intro h0; rw [hbuf]; exact hdel.1 h0
  · intro h0
    rw [← hacc]
    apply hdel.2
    rw [hout] at h0
    simpa using h0
  · have h1 := C13_answers_own_trace cd hT dom ops sid
    rw [hans] at h1
    exact pointwise_map_right ansOfResp h1

/-! ## provenance, with no assumption on the peer -/

/-- **provenance** (owner arbitrary, e.g. hostile or buggy): after ANY history, the bytes released to the reader of
    session object `sid` are a concatenation of payloads of packets of `sid`'s own trace (requests that carried its
    identifier, from its owner, while it was live); the packets parked out of order are such payloads; and every chunk
    queued for — hence every chunk ever handed out in an answer to — the owner is a chunk of a Write of the application
    on `sid`.  No byte of a request for another identifier, from another address, or for a stale identifier, and no
    byte written to another connection object, is in `sid`'s queues. -/
theorem C13_stream_bytes_provenance (cd : Codec) (hT : cd.Total) (dom : List Nat) (ops : List Op) (sid : Nat) :
    (∃ L : List (List Nat), ((run cd dom Srv.init ops).sess sid).inq.buf = L.flatten ∧
        ∀ x ∈ L, x ∈ payloadsOf (sessTrace cd dom sid ops)) ∧
    (∀ f ∈ ((run cd dom Srv.init ops).sess sid).inq.future, f.2 ∈ payloadsOf (sessTrace cd dom sid ops)) ∧
    (∀ c ∈ ((run cd dom Srv.init ops).sess sid).outq.out, c.2 ∈ chunksOf (sessTrace cd dom sid ops)) := by
  have h := trace_prov (sessTrace cd dom sid ops) [] [] _ init_prov
  rw [← C13_session_queues_own_trace cd hT dom ops sid] at h
  simp only [List.nil_append] at h
  exact ⟨h.inq.buf, h.inq.fut, h.out⟩

/-! ## non-vacuity: a history with two sessions, a spoofer, a stale identifier and application writes -/

def exDom : List Nat := [116, 46, 99, 111]
def exSfx : List Nat := [46, 116, 46, 99, 111, 46]

/-- oracle codec: what the decoder returns for the four bodies of the history -/
def exTable : List (Nat × List Nat × Option (List Nat)) :=
  [(84, [120], some [0, 16, 0, 0]),               -- "x": version 4096
   (84, [112], some [255, 255, 1, 0, 0, 7, 8]),   -- "p": ack 65535, packet #0 = 07 08
   (84, [113], some [255, 255, 1, 0, 0, 66]),     -- "q": ack 65535, packet #0 = 42
   (84, [114], some [255, 255, 0])]               -- "r": ack 65535, no packet (poll)

def exCodec : Codec := oracleCodec exTable

def vName : List Nat := [118, 97, 97, 97, 120] ++ exSfx
def pName (u b : Nat) : List Nat := [99, 97, 97, 97, 48, 48 + u, b] ++ exSfx

def exOps : List Op :=
  [.msg { addr := 1, qtype := 16, name := vName },          -- address 1 opens session object 0 (id 0)
   .msg { addr := 2, qtype := 16, name := vName },          -- address 2 opens session object 1 (id 1)
   .msg { addr := 3, qtype := 16, name := pName 0 113 },    -- spoofer: id 0 from address 3, payload 42
   .msg { addr := 1, qtype := 16, name := pName 0 112 },    -- owner of 0: packet #0 = 07 08
   .msg { addr := 2, qtype := 16, name := pName 1 113 },    -- owner of 1: packet #0 = 42
   .msg { addr := 2, qtype := 16, name := pName 0 113 },    -- owner of 1 names id 0
   .write 1 [9, 9],                                         -- application writes to object 1
   .write 0 [5, 6, 7],                                      -- application writes to object 0
   .close 1, .tick 200,
   .msg { addr := 2, qtype := 16, name := pName 1 113 },    -- stale identifier 1
   .msg { addr := 1, qtype := 16, name := pName 0 114 }]    -- owner of 0 polls and is handed 05 06 07

/-- the owner of session 0 as a C07 client: write 07 08, one delivered exchange; the server application writes
    05 06 07; one more delivered exchange -/
def exEvs : List SA.Queue.Ev := [.write false [7, 8], .xchg .d, .write true [5, 6, 7], .xchg .d]

theorem exCodec_total : exCodec.Total := fun _ _ => rfl

theorem exCodec_bytes : exCodec.Bytes := oracle_bytes exTable (by decide)

/-- the trace of session object 0 is the B-side trace of the client history: the spoofed request, the requests of
    the other session's owner (for its own and for this identifier) and the write on the other object are not in it -/
theorem ex_peer : sessTrace exCodec exDom 0 exOps =
    (SA.Queue.bTrace SA.Queue.Cfg.gen SA.Gen.defaultDownstreamFragmentSize (SA.Queue.init 0 0) exEvs).map eraseB := by
  decide +kernel

example : sessTrace exCodec exDom 0 exOps = [.pkt 65535 (some (0, [7, 8])), .wr [5, 6, 7] [[5, 6, 7]], .pkt 65535 none] ∧
    sessTrace exCodec exDom 1 exOps = [.pkt 65535 (some (0, [66])), .wr [9, 9] [[9, 9]]] := by decide +kernel

example : SA.Queue.WellBounded SA.Queue.Cfg.gen SA.Gen.defaultDownstreamFragmentSize 0 1 exEvs := by decide

/-- all hypotheses of `C13_streams_only_own_peer` hold together on this history -/
example := C13_streams_only_own_peer exCodec exCodec_total exCodec_bytes exDom exOps 0 SA.Gen.defaultDownstreamFragmentSize 0 1
  exEvs (by decide) (by decide) ex_peer

/-- and its conclusion is not trivial: session 0 released 07 08 (not the spoofer's 42), session 1 released 42, and the
    chunk 05 06 07 written to object 0 was handed out — in the answer to the owner's poll -/
example : ((run exCodec exDom Srv.init exOps).sess 0).inq.buf = [7, 8] ∧
    ((run exCodec exDom Srv.init exOps).sess 1).inq.buf = [66] ∧
    ((run exCodec exDom Srv.init exOps).sess 0).outq.out = [(0, [5, 6, 7])] ∧
    writtenOf (sessTrace exCodec exDom 0 exOps) = [5, 6, 7] ∧ payloadsOf (sessTrace exCodec exDom 0 exOps) = [[7, 8]] := by
  decide +kernel

example := C13_stream_bytes_provenance exCodec exCodec_total exDom exOps 0
example := C13_same_trace_same_queues exCodec exCodec_total exDom exOps exOps 0 0 rfl

end SA.Props.C13

#print axioms SA.Props.C13.C13_session_queues_own_trace
#print axioms SA.Props.C13.C13_same_trace_same_queues
#print axioms SA.Props.C13.C13_answers_own_trace
#print axioms SA.Props.C13.C13_session_refines_queue_endpoint
#print axioms SA.Props.C13.C13_streams_only_own_peer
#print axioms SA.Props.C13.C13_stream_bytes_provenance
