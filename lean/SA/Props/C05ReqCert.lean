/-
  C05 — "a server configured to require client certificates admits only clients presenting a certificate signed by its
  CA", on carriers the server does not encrypt itself.  Model SA.Model.ReqCert (the server's decision at the upgrade
  step), facts SA.Gen.C05ReqCert (the refusals in internal/socketace/server.go).
-/
import SA.Model.ReqCert
import SA.Gen.C05ReqCert
namespace SA.ReqCert

/-- **required_certificate_is_presented**: with the enforcement rule, whatever the options and whatever the client does,
    a client is admitted by a server that requires client certificates only if it asked for StartTLS, the TLS
    configuration was available and its certificate verified. -/
theorem C05_required_certificate_is_presented (tlsOk : Bool) (c : Client) (h : admitted true true tlsOk c = true) :
    c = .startTls true ∧ tlsOk = true := by
  cases c with
  | plain => simp [admitted] at h
  | startTls ok => simpa [admitted, and_comm] using h

/-- nothing changes for servers that do not require client certificates, and for clients that do authenticate -/
theorem C05_enforcement_changes_nothing_else (e tlsOk : Bool) (c : Client) :
    admitted e false tlsOk c = admitted false false tlsOk c ∧
    admitted e true tlsOk (.startTls true) = tlsOk := by
  cases c <;> cases e <;> simp [admitted]

/-- the code has the rule (regenerated from internal/socketace/server.go): the plain answer of the upgrade step is
    preceded by a refusal under "carrier not encrypted by the server and client certificates required"; the announce step
    refuses when the requirement is set and the TLS configuration cannot be loaded; the requirement is the manager's -/
theorem C05_code_enforces_requirement :
    Gen.c05PlainUpgradeGuards = ["!sc.secure&&sc.clientCertRequired()"] ∧
    Gen.c05AnnounceRefusesUnloadable = true ∧ Gen.c05RequirementFromManager = true := by decide

/-- witness (the behaviour before the repair): without the rule a client that never asks for StartTLS is admitted by a
    server that requires client certificates, with or without a loadable TLS configuration -/
theorem C05_witness_plain_client_admitted :
    admitted false true true .plain = true ∧ admitted false true false .plain = true ∧
    admitted true true true .plain = false := by decide

end SA.ReqCert

#print axioms SA.ReqCert.C05_required_certificate_is_presented
#print axioms SA.ReqCert.C05_enforcement_changes_nothing_else
#print axioms SA.ReqCert.C05_code_enforces_requirement
#print axioms SA.ReqCert.C05_witness_plain_client_admitted
