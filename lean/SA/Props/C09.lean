/-
  C09 — DNS tunnel requests survive the wire for every command and size.

  The lemmas are in SA.Proofs.DnsWire (names) and SA.Proofs.DnsReq (requests).

  Quantifiers: every request (`Req`: version, options, packet, downstream-codec probe, upstream pattern
  probe, fragment-size probe) with fields in range (`ReqOk`: user id < 1296 = Gen.C09.maxUserId, sequence
  and ack numbers < 65536, fragment sizes < 2^32 (2^32-1 is the wire's "absent" sentinel), codec
  letters from the registry, payload any byte string of any length, probe patterns without '.' and
  '\'), any three name-safe cache characters, every tunnel domain made of labels that need no escaping,
  every pair of codecs (`b32` for the hard-wired Base32, `up` for the selected upstream codec) that
  satisfies C08's theorems `roundtrip` (on byte strings) and `alphabet_safe` — taken as hypotheses here,
  never as axioms.  The size quantifier is "every payload for which the client's PrepareHostname does
  not report ErrTooLong"; `C09_payload_within_mtu_fits` (SA.Props.C09Inst) relates that to the fragment size the
  client computes (`C09_mtu_formula`).

  Modelled, not verified: miekg/dns packDomainName / UnpackDomainName (SA.Model.DnsWire.packName,
  unpackName), validated on every generated case by the `dnsreq` harness component.
-/
import SA.Proofs.DnsReq
import SA.Gen.PkgVars
namespace SA.DnsReq
open SA.DnsWire SA.WireCodec

/-- **C09, round trip.**  Whenever the client can form the question (PrepareHostname accepts it), real
    wire coding succeeds and the server decodes the very same request object. -/
theorem C09_request_roundtrip (b32 up : Codec) (hb : b32.Good) (hu : up.Good) (sb : b32.Safe) (su : up.Safe)
    (cache domain : List Nat) (dls : List (List Nat)) (hc : CacheOk cache) (hdom : DomainOk domain dls)
    (r : Req) (hr : ReqOk r) (host : List Nat)
    (hfit : prepareHostname (encodeReq b32 up cache r) domain = some host) :
    ∃ labels, nameOverWire host = .ok labels
      ∧ roundTrip b32 up cache domain r = .ok (unpackName labels) labels r := by
  have hwire := encodeReq_labels b32 up sb su cache domain dls hc hdom r hr host hfit
  have hstrip := stripDomain_unpack _ dls domain (hostChunks_ne _) (hostChunks_flatten _)
    (encodeReq_safe b32 up sb su hc.2 r hr).bytes hdom
  exact ⟨_, hwire, roundTrip_of hfit hwire hstrip (decodeReq_encodeReq b32 up hb hu cache hc.1 r hr)⟩

/-- **C09, valid question.**  In the same situation every label of the emitted name has 1..63 octets,
    the name has at most 253 octets (in fact ≤ HostnameMaxLen − 2), and the name the server sees is the
    unpacked form of exactly these labels. -/
theorem C09_labels_ok (b32 up : Codec) (sb : b32.Safe) (su : up.Safe)
    (cache domain : List Nat) (dls : List (List Nat)) (hc : CacheOk cache) (hdom : DomainOk domain dls)
    (r : Req) (hr : ReqOk r) (host : List Nat)
    (hfit : prepareHostname (encodeReq b32 up cache r) domain = some host) :
    ∃ labels, nameOverWire host = .ok labels
      ∧ (∀ l ∈ labels, 1 ≤ l.length ∧ l.length ≤ 63)
      ∧ host.length ≤ 253
      ∧ wireOctets labels = host.length + 1 := by
  have hne := encodeReq_ne_nil b32 up cache r
  have hhost := prepareHostname_dotted hdom hfit
  have hpos : ∀ l : List Nat, l ≠ [] → 1 ≤ l.length := fun l h => List.length_pos_iff.mpr h
  refine ⟨_, encodeReq_labels b32 up sb su cache domain dls hc hdom r hr host hfit, ?_, ?_, ?_⟩
  · intro l hl
    rcases List.mem_append.mp hl with h | h
    · exact ⟨hpos l (hostChunks_bounds _ hne l h).1, (hostChunks_bounds _ hne l h).2⟩
    · exact ⟨hpos l (hdom.good l h).1, (hdom.good l h).2.1⟩
  · have := (prepareHostname_some hfit).2
    have := gen_host_lt
    omega
  · rw [wireOctets, ← dotted_length, ← hhost]

/-- **C09, too-long requests are reported, never sent.**  When PrepareHostname refuses, the client gets
    an error and nothing goes on the wire. -/
theorem C09_too_long_reported (b32 up : Codec) (cache domain : List Nat) (r : Req)
    (h : prepareHostname (encodeReq b32 up cache r) domain = none) :
    roundTrip b32 up cache domain r = .encError := roundTrip_too_long h

/-! ### the computed upstream fragment size

`upstreamMtu` is getUpstreamMtu with the codec ratio as an exact rational.  That the Go float
computation returns exactly this number is checked exhaustively (every domain length 0..260 × every
registry codec × multi-query flag) by the `dnsreq` component on every run. -/

/-- the exact formula: mtu = ⌊59·((247 − L)·den − 10·num) / (60·num)⌋ (single-query mode) -/
theorem C09_mtu_formula (L num den : Nat) :
    upstreamMtu L num den false =
      (if (59 : Int) * ((247 - (L : Int)) * den - 10 * num) < 0 then none
       else some ((59 * ((247 - (L : Int)) * den - 10 * num)) / (60 * (num : Int))).toNat) :=
  upstreamMtu_formula L num den

/-- a tiny codec that provably meets both C08 hypotheses (two letters a..p per byte) -/
def nibble : Codec :=
  ⟨fun bs => bs.flatMap (fun b => [97 + b / 16 % 16, 97 + b % 16]),
   let rec dec : List Nat → Option (List Nat)
     | [] => some []
     | [_] => none
     | x :: y :: rest => (dec rest).map (((x - 97) * 16 + (y - 97)) :: ·)
   dec⟩

theorem nibble_good : nibble.Good := by
  constructor
  intro bs hbs
  induction bs with
  | nil => rfl
  | cons b bs ih =>
    have hb := hbs.head
    have := ih hbs.tail
    simp only [nibble, List.flatMap_cons, List.cons_append, List.nil_append] at this ⊢
    simp only [nibble.dec, this, Option.map_some]
    congr 2
    omega

theorem nibble_safe : nibble.Safe := by
  constructor
  intro bs _ x hx
  simp only [nibble, List.mem_flatMap] at hx
  obtain ⟨b, _, hx⟩ := hx
  simp at hx
  omega

theorem cacheOk_xyz : CacheOk [120, 121, 122] := by unfold CacheOk; decide

theorem domainOk_tex : DomainOk [116, 46, 101, 120] [[116], [101, 120]] := by
  refine ⟨by decide, ?_, ?_⟩
  · unfold GoodLabel NoSyntax; decide
  · unfold PlainLabel; decide

theorem reqOk_packet {uid ack seq : Nat} {data : List Nat} (hu : uid < SA.Gen.C09.maxUserId) (ha : ack < 65536)
    (hs : seq < 65536) (hd : SA.Bytes data) : ReqOk (.packet uid ack (some (seq, data))) :=
  ⟨hu, ha, fun p hp => by cases hp; exact ⟨hs, hd⟩⟩

example :
    let cache := [120, 121, 122]            -- "xyz"
    let domain := [116, 46, 101, 120]       -- "t.ex"
    let r := Req.packet 1295 65535 (some (65535, [0, 46, 92, 255]))
    ∃ host labels, prepareHostname (encodeReq nibble nibble cache r) domain = some host
      ∧ nameOverWire host = .ok labels
      ∧ roundTrip nibble nibble cache domain r = .ok (unpackName labels) labels r := by
  intro cache domain r
  have hs : (prepareHostname (encodeReq nibble nibble cache r) domain).isSome = true := by decide
  obtain ⟨host, hfit⟩ := Option.isSome_iff_exists.mp hs
  obtain ⟨labels, h1, h2⟩ :=
    C09_request_roundtrip nibble nibble nibble_good nibble_good nibble_safe nibble_safe
      cache domain _ cacheOk_xyz domainOk_tex r (reqOk_packet (by decide) (by decide) (by decide) (by decide)) host hfit
  exact ⟨host, labels, hfit, h1, h2⟩

/-- the executable model on a concrete request with the local Base32: the server sees the same packet -/
example :
    (match roundTrip base32 base32 [97, 98, 99] [97, 46, 98] (.packet 7 300 (some (9, [1, 2, 250]))) with
     | .ok _ _ r => r == .packet 7 300 (some (9, [1, 2, 250]))
     | _ => false) = true := by decide +kernel

end SA.DnsReq

#print axioms SA.DnsReq.C09_request_roundtrip
#print axioms SA.DnsReq.C09_labels_ok
#print axioms SA.DnsReq.C09_too_long_reported
#print axioms SA.DnsReq.C09_mtu_formula

namespace SA.PkgState
/-- **no_hidden_process_state**: the models of this property are functions of their arguments and of the objects they are
    handed; the packages they model keep no package-level variables besides these (regenerated inventory: error
    sentinels, tables, compiled patterns, the two session time-outs).  A new package-level variable — a counter, a cache, a
    scratch buffer, a shared map, a registry — would make later calls depend on earlier ones, or concurrent calls on each
    other, outside anything a per-call comparison of model and code can see. -/
theorem C09_no_hidden_process_state :
    Gen.pkgVarNames_dnscommands = ["BadCodec", "BadCommand", "BadConn", "BadErrors", "BadFrag", "BadIp", "BadLen", "BadServerFull", "BadUser", "BadVersion", "CmdError", "CmdLogin", "CmdPacket", "CmdSetOptions", "CmdTestDownstreamEncoder", "CmdTestDownstreamFragmentSize", "CmdTestMultiQuery", "CmdTestUpstreamEncoder", "CmdVersion", "Commands", "Digits", "ErrTimeout", "LazyModeOk", "NoData", "VersionNotOk", "VersionOk"] ∧
    Gen.pkgVarNames_dnsutil = ["DotRegex", "DownloadCodecCheck", "ErrCaseSwap", "ErrDeadlineExceeded", "ErrInvalidSequenceNumber", "ErrStreamBroken", "ErrTooLong", "QueryTypeA", "QueryTypeAAAA", "QueryTypeCname", "QueryTypeMx", "QueryTypeNull", "QueryTypePrivate", "QueryTypeSrv", "QueryTypeTxt", "QueryTypesByPriority"] ∧
    Gen.pkgVarNames_enc = ["Base128Encoding", "Base192Encoding", "Base32Encoding", "Base64Encoding", "Base64uEncoding", "Base85Encoding", "Base91Encoding", "RawEncoding", "cb128Invert", "cbInitialized", "iodineBase32Encoding", "iodineBase64Encoding", "iodineBase64uEncoding", "iodineBase91Encoding"] ∧
    Gen.singletonFields_enc = [] ∧
    Gen.singletonFields_dnscommands = ["Command.Code", "Command.NeedsUserId", "Command.NewRequest", "Command.NewResponse"] :=
  ⟨rfl, rfl, rfl, rfl, rfl⟩
end SA.PkgState

#print axioms SA.PkgState.C09_no_hidden_process_state
