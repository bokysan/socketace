/-
  C14 — Resources are reclaimed when connections end (partial: the Go runtime, sockets and smux are outside the models).

  Four process models, each run under every schedule (a list of actions; disabled ones are skipped), i.e. every
  interleaving of its activities and the environment: PipeData with its callers (SA.Model.Pipe — the copier goroutines
  and both connection objects), the per-session accept loop and the branch for a refused session (below), a session
  ended while its carrier write is blocked (SA.Model.CarrierClose), and a session lost while a target has stopped
  reading (SA.Model.StalledSession).  Each statement is read off the model's invariant (SA.Proofs.…) in the states
  where nothing can move; what the code-dependent parameters are is a regenerated fact beside it.
-/
import SA.Proofs.StalledSession
import SA.Proofs.Pipe
import SA.Proofs.CarrierClose
import SA.Gen.Locks
import SA.Gen.PkgVars
namespace SA.Pipe

/-- **pipe_goroutines_terminate**: with result channels of capacity ≥ 1 and each arm closing the
    opposite end, in every reachable state where the program can make no further step and PipeData
    has returned, both copier goroutines have exited — whichever side ended first, by EOF, half-close
    or error, with any data in flight — provided no peer has stopped reading, or both connection
    objects have been closed (a copier blocked in a Write to a peer that does not read is released
    only by the local close of that connection; `C14_both_ends_closed` shows the callers do that). -/
theorem C14_pipe_goroutines_terminate (c : Cfg) (hc : c.ArmsOk) (hcap : 1 ≤ c.cap)
    (dIn uIn : List (List Nat)) (acts : List Act) :
    let s := run c (init dIn uIn) acts
    quiescent c s = true → s.mainDone = true →
    ((s.dStall = false ∧ s.uStall = false) ∨ (s.dClosed = true ∧ s.uClosed = true)) →
    liveCopiers s = 0 := by
  intro s hq hm hst
  have hinv : Inv s := run_inv hc (init_inv dIn uIn) acts
  rw [quiescent_iff] at hq
  -- main has taken the result of one copier, which has exited, and closed the end the other one reads from: that one is
  -- not waiting in `Read`, and in `Write` it would be released by the hypothesis
  rcases hinv.main hm with ⟨huc, hd, _⟩ | ⟨hdc, hu, _⟩
  · have hu := (blockedU hcap hinv hq.stepU hq.sendU).exited_of (.inl huc) (hst.imp (·.1) (·.1))
    simp [liveCopiers, hd, hu]
  · have hd := (blockedD hcap hinv hq.stepD hq.sendD).exited_of (.inl hdc) (hst.imp (·.2) (·.2))
    simp [liveCopiers, hu, hd]

/-- the parameters of the current code meet the conditions of the theorem (this is the obligation
    that breaks when a channel loses its buffer or an arm stops closing the opposite end) -/
theorem C14_pipe_cfg_ok (caller : Caller) : (genCfg caller).ArmsOk ∧ 1 ≤ (genCfg caller).cap := by
  cases caller <;> exact ⟨⟨by decide, by decide⟩, by decide⟩

/-- **witness_leak**: with unbuffered result channels (the code before the repair) the application
    closes, main returns, and the second copier is stuck forever on its send — one goroutine leaked
    per logical connection (replayed on the implementation by corpus/C14). -/
theorem C14_witness_leak_cap0 :
    let c : Cfg := { cap := 0, armD := [.up], armDErr := [.down], armU := [.down], armUErr := [.up],
                     caller := .none, muxClosesTarget := false }
    let s := run c (init [] []) [.finDown, .stepD, .sendD, .stepU, .sendU, .callerClose]
    quiescent c s = true ∧ s.mainDone = true ∧ liveCopiers s = 1 := by decide

/-- **both_ends_closed**: when the caller closes both connection objects (client listener; server
    once muxHandler closes the target it opened), in every quiescent state after PipeData returned
    every connection of the pair has had `Close` called — whichever side ended first. -/
theorem C14_both_ends_closed (c : Cfg) (hb : c.CallerClosesBoth) (dIn uIn : List (List Nat)) (acts : List Act) :
    let s := run c (init dIn uIn) acts
    quiescent c s = true → s.mainDone = true → s.dClosed = true ∧ s.uClosed = true := by
  intro s hq hm
  -- the caller has made its closes: its step is not enabled although PipeData has returned
  exact run_cinv hb dIn uIn acts (by simpa [step_callerClose, hm] using ((quiescent_iff c s).mp hq).callerClose)

/-- **no_leak_when_caller_closes**: with a caller that closes both connection objects, both copier
    goroutines have exited in every quiescent state after PipeData returned — also when a peer has
    stopped reading and a copier was blocked in its Write. -/
theorem C14_no_leak_when_caller_closes (c : Cfg) (hc : c.ArmsOk) (hcap : 1 ≤ c.cap) (hb : c.CallerClosesBoth)
    (dIn uIn : List (List Nat)) (acts : List Act) :
    let s := run c (init dIn uIn) acts
    quiescent c s = true → s.mainDone = true → liveCopiers s = 0 := by
  intro s hq hm
  exact C14_pipe_goroutines_terminate c hc hcap dIn uIn acts hq hm
    (Or.inr (C14_both_ends_closed c hb dIn uIn acts hq hm))

/-- the server path of the current code closes the target connection it opened -/
theorem C14_server_closes_target : (genCfg .downOnly).CallerClosesBoth :=
  .inr ⟨rfl, rfl⟩

/-- **witness_target_left_open**: when muxHandler does not close the target (the code before the
    repair) and the target ends the conversation first, the target connection is never closed. -/
theorem C14_witness_target_left_open :
    let c : Cfg := { cap := 1, armD := [.up], armDErr := [.down], armU := [.down], armUErr := [.up],
                     caller := .downOnly, muxClosesTarget := false }
    let s := run c (init [] []) [.finUp, .stepU, .sendU, .recvU, .stepD, .sendD, .callerClose]
    quiescent c s = true ∧ s.mainDone = true ∧ s.callerDone = true ∧ s.uClosed = false := by decide

/-! ### the per-session accept loop (server communicator.go acceptStream)

  smux reports a dead session from `AcceptStream` immediately and on every call (sticky error).  The
  loop ends for the errors it compares with (`Gen.acceptTerminalErrs`); for any other error it does
  what `Gen.acceptOtherErr` says. -/

/-- iterations of the accept loop on a dead session with sticky error `e`, up to `fuel`: `none` = still looping -/
def acceptLoop (terminal : List String) (other : String) (e : String) : Nat → Option Nat
  | 0 => none
  | fuel + 1 =>
      if e ∈ terminal then some 1
      else if other = "return" then some 1
      else (acceptLoop terminal other e fuel).map (· + 1)

/-- **accept_loop_exits**: for every sticky session error the loop of the current code ends after one
    iteration (no busy loop on a dead session). -/
theorem C14_accept_loop_exits (e : String) (fuel : Nat) :
    acceptLoop Gen.acceptTerminalErrs Gen.acceptOtherErr e (fuel + 1) = some 1 := by
  simp only [acceptLoop]
  split
  · rfl     -- an error the loop compares with
  · rfl     -- any other: `Gen.acceptOtherErr = "return"`, evaluated

/-- **witness_spin**: with `continue` as the default action (the code before the repair) an error that
    is not in the terminal list keeps the loop running for any number of iterations. -/
theorem C14_witness_spin (fuel : Nat) :
    acceptLoop ["os.ErrClosed", "io.EOF"] "continue" "invalid protocol" fuel = none := by
  induction fuel with
  | zero => rfl
  | succ k ih => simp [acceptLoop, ih]

/-- **refused_session_released**: a session whose handshake the server refused is closed by the server whatever the
    peer does afterwards — also when it never sends another byte and never hangs up. -/
theorem C14_refused_session_released (moves : Nat) : refusalRun refusalSteps moves = true := by
  have h : refusalSteps = [RStep.close] := by decide
  rw [h]; rfl

/-- **witness_refusal_waits**: a branch that first swallows what the peer still sends (until it hangs up) never closes
    the connection of a peer that stays silent with its end open. -/
theorem C14_witness_refusal_waits : refusalRun [RStep.waitPeer, RStep.close] 0 = false := rfl

/-! non-vacuity: a full run of the current configuration reaches a quiescent state with PipeData returned -/
example : let c := genCfg .downOnly
    let s := run c (init [[1,2,3]] [[4]]) [.stepD, .stepD, .stepU, .stepU, .finDown, .stepD, .sendD, .recvD, .stepU, .sendU, .callerClose]
    quiescent c s = true ∧ s.mainDone = true ∧ liveCopiers s = 0 ∧ s.uOut = [1,2,3] ∧ s.dOut = [4] := by decide

/-- the server connects to a channel's target on the goroutine of that logical connection's handler (regenerated): when
    the session ends meanwhile there is no helper left holding the connection — the handler itself gets it, finds the
    logical connection dead and closes it (C14_server_closes_target). -/
theorem C14_target_dial_inline : Gen.muxDialInline = true := rfl

/-- **locks_not_reentrant**: the models treat what a function does between Lock and Unlock of one of the repository's
    mutexes as one atomic step (Upstreams.Connect / discard / Shutdown here).  No function, while holding such a mutex,
    reaches code that locks the same mutex again (regenerated: lexical lock regions, calls resolved by name within the
    package and through function-valued fields) — a re-entrant path on a sync.Mutex blocks the goroutine for ever with
    the lock held, and every later logical connection queues up behind it with its goroutine and socket. -/
theorem C14_locks_not_reentrant : Gen.reentrantLockPaths = [] := rfl

end SA.Pipe

#print axioms SA.Pipe.C14_pipe_goroutines_terminate
#print axioms SA.Pipe.C14_pipe_cfg_ok
#print axioms SA.Pipe.C14_witness_leak_cap0
#print axioms SA.Pipe.C14_both_ends_closed
#print axioms SA.Pipe.C14_no_leak_when_caller_closes
#print axioms SA.Pipe.C14_server_closes_target
#print axioms SA.Pipe.C14_witness_target_left_open
#print axioms SA.Pipe.C14_accept_loop_exits
#print axioms SA.Pipe.C14_witness_spin
#print axioms SA.Pipe.C14_refused_session_released
#print axioms SA.Pipe.C14_witness_refusal_waits
#print axioms SA.Pipe.C14_locks_not_reentrant
#print axioms SA.Pipe.C14_target_dial_inline

namespace SA.PkgState
/-- **no_hidden_process_state**: the models of this property are functions of their arguments and of the objects they are
    handed; the packages they model keep no package-level variables besides these (regenerated inventory: error
    sentinels, tables, compiled patterns, the two session time-outs).  A new package-level variable — a counter, a cache, a
    scratch buffer, a shared map, a registry — would make later calls depend on earlier ones, or concurrent calls on each
    other, outside anything a per-call comparison of model and code can see. -/
theorem C14_no_hidden_process_state :
    Gen.pkgVarNames_server = ["ChannelRegex"] ∧
    Gen.pkgVarNames_streams = ["Localhost"] ∧
    Gen.pkgVarNames_upstream = [] := ⟨rfl, rfl, rfl⟩
end SA.PkgState

#print axioms SA.PkgState.C14_no_hidden_process_state

/-! ### a session that is ended while its carrier write is blocked (SA.Model.CarrierClose) -/
namespace SA.CarrierClose

/-- **blocked_session_released** (general form): if every call the closing goroutine makes before the socket is
    closed carries a finite deadline — or no carrier Write is blocked — then, under every interleaving of the closing
    goroutine, the send loop and the receive loop, with a peer that neither reads nor hangs up, every state in which
    nothing can move any more has the socket closed and no goroutine of the session left. -/
theorem C14_blocked_session_released (pre : List PreStep) (blocked : Bool)
    (h : (∀ p ∈ pre, p = PreStep.bounded) ∨ blocked = false) (acts : List Act) :
    let s := run (init pre blocked) acts
    quiescent s = true → live s = 0 ∧ s.sockClosed = true := by
  intro s hq
  have hinv : BInv s := run_binv h acts
  obtain ⟨hc, hsn, hr⟩ := quiescent_iff.mp hq
  -- the closing goroutine is through, so the socket is closed, and neither loop can still be there
  have hdone := quiescent_closerDone hinv hc
  have hsock := hinv.closed hdone
  have hsl : s.senderLive = false := by simpa [step, hsock] using hsn
  have hrl : s.receiverLive = false := by simpa [step, hsock] using hr
  exact ⟨by simp [live, hdone, hsl, hrl], hsock⟩

/-- **carrier_close_does_not_wait**: in the code as it is, no Close method of a connection wrapper in
    internal/streams (WebsocketTunnelConnection, SafeConnection, SafeStream, SafeReader, SafeWriter, ReadWriteCloser)
    and none of the places that end a session (Upstreams.discard, Upstreams.Shutdown on the client, the branch of the
    server's accept loop that closes a dead session) makes a call —
    a write, a flush, a control frame, a lock, a wait — that lacks a finite deadline before the socket underneath is
    closed (regenerated from the source; the complete list of their calls besides closes, logging and error
    bookkeeping). -/
theorem C14_carrier_close_does_not_wait : ∀ p ∈ genPre, p = PreStep.bounded := by decide

/-- **blocked_session_released** at the code's own list of calls (`genPre`, all bounded by the theorem above): a session
    that is ended while its send loop is blocked in a carrier Write is released whatever the peer does: socket closed, no
    goroutine left, in every final state of every interleaving. -/
theorem C14_blocked_session_released_now (blocked : Bool) (acts : List Act) :
    let s := run (init genPre blocked) acts
    quiescent s = true → live s = 0 ∧ s.sockClosed = true :=
  C14_blocked_session_released genPre blocked (Or.inl C14_carrier_close_does_not_wait) acts

/-- **witness_close_waits**: one call without a deadline before the socket is closed (a close frame written with a
    zero deadline, a flush, a lock shared with Write) and a blocked Write: nothing can move, the closing goroutine, the
    send loop and the receive loop are all still there and the socket is open — for as long as the peer likes. -/
theorem C14_witness_close_waits :
    let s := init [PreStep.waits] true
    quiescent s = true ∧ live s = 3 ∧ s.sockClosed = false := by decide

/-- the same Close on a session whose write path is idle goes through (which is why no test notices) -/
theorem C14_witness_close_waits_idle_ok :
    let s := settle (init [PreStep.waits] false)
    quiescent s = true ∧ live s = 0 ∧ s.sockClosed = true := by decide

/-! non-vacuity: the run of the current code with a blocked writer reaches a final state -/
example : let s := settle (init genPre true)
    quiescent s = true ∧ live s = 0 ∧ s.sockClosed = true := by decide

end SA.CarrierClose

#print axioms SA.CarrierClose.C14_blocked_session_released
#print axioms SA.CarrierClose.C14_carrier_close_does_not_wait
#print axioms SA.CarrierClose.C14_blocked_session_released_now
#print axioms SA.CarrierClose.C14_witness_close_waits
#print axioms SA.CarrierClose.C14_witness_close_waits_idle_ok

namespace SA.StalledSession
/-- **lost_session_with_stalled_target_is_released**: the session's carrier is lost while the multiplexer is not reading
    it (a target has stopped reading and the receive buffer is full).  With the code's two mechanisms — a failed carrier
    write ends the session; every handler releases its target when the accept loop has ended — every schedule in which
    the keep-alive write, the session close, the accept loop's end and the handler's watcher get their turn (anything
    before, between and after them) ends with all seven goroutines, the carrier and the target connection released. -/
theorem C14_lost_session_with_stalled_target_is_released (A0 A1 A2 A3 A4 : List Act) :
    released (run both {}
      (A0 ++ Act.ping :: (A1 ++ Act.closeSession :: (A2 ++ Act.announce :: (A3 ++ Act.releaseTarget :: A4))))) = true :=
  released_of_turns {} A0 A1 A2 A3 A4

/-- the code has both mechanisms (regenerated from internal/server/communicator.go) -/
theorem C14_code_has_both_mechanisms : codePolicy = both := rfl

/-- witnesses (the behaviour before the repair): without the carrier watch nothing is ever released, and without the
    handlers' release the connection to the stalled target stays — for every schedule -/
theorem C14_witness_stalled_target_held (r w : Bool) (as : List Act) :
    goroutines (run ⟨false, r⟩ {} as) = 7 ∧ sockets (run ⟨false, r⟩ {} as) = 2 ∧
    sockets (run ⟨w, false⟩ {} as) ≥ 1 := by
  have h := stuck_without_watch r as
  have t := target_stays_without_release w as
  refine ⟨by simp [goroutines, h.1, h.2.1, h.2.2], by simp [sockets, h.1, h.2.2], ?_⟩
  simp only [sockets, t]
  split <;> simp
end SA.StalledSession

#print axioms SA.StalledSession.C14_lost_session_with_stalled_target_is_released
#print axioms SA.StalledSession.C14_code_has_both_mechanisms
#print axioms SA.StalledSession.C14_witness_stalled_target_held
