/-
  C03 — Channel routing and exposure control.

  A request for channel name N is connected to exactly the target configured for (the first channel
  named) N, and to nothing else; a request for a name that is not configured, or not in the allow-list of
  the endpoint it arrived on, is refused and dials nothing.  For every channel table, allow-list, server
  kind and requested string.  `ms` is go-multistream's matcher (third-party): hypothesis `hms`.
-/
import SA.Model.Routing
import SA.Gen.PkgVars
import SA.Gen.LoopVars
import SA.Gen.C12Handler
namespace SA.Props.C03
open SA.Routing SA.Gen

/-- the exact-match contract of go-multistream's `AddHandler` / `findHandler` -/
def ExactMatch (ms : List Str → Str → Bool) : Prop := ∀ hs tok, ms hs tok = true ↔ tok ∈ hs

/-- the three prefixes, and what `serve` is written for: one `OpenConnection` per stream handled, an unknown id is an error -/
theorem C03_gen_prefixes :
    registerPrefix = "/" ∧ muxPrefix = "/" ∧ clientFormat = "/%s" ∧ muxOpenConnectionSites = 1 ∧
    muxUnknownIsError = true := ⟨rfl, rfl, rfl, rfl, rfl⟩

/-- what `find` and `filter` of the model are written for -/
theorem C03_gen_filter_shape :
    filterEmptyMeansAll = true ∧ filterUnknownIsError = true ∧ filterEmptyResultIsError = true ∧
    findIsFirstExact = true := ⟨rfl, rfl, rfl, rfl⟩

/-- the channel list a connection is served with is, on every server kind, the Filter result of the endpoint the
    connection arrived on: the socket / packet / stdio servers serve their own `upstreams` field, assigned once from
    `Filter(st.Channels)`; the websocket handler serves a parameter of `EndpointHandler` that Startup binds, per
    loop iteration, to `Filter(endpoint.Channels)` of that iteration (a *value* fixed when the handler is created,
    not something read through the loop variable at request time). `endpointKept` in the model rests on this. -/
theorem C03_gen_endpoint_lists :
    httpHandlerListOrigin = "per-endpoint-filter-result" ∧ socketServesOwnFilterResult = true ∧
    packetServesOwnFilterResult = true ∧ stdioServesOwnFilterResult = true := ⟨rfl, rfl, rfl, rfl⟩

/-- the regenerated prefixes (`muxPrefix`, `registerPrefix`, `clientFormat`) enter through these three equations -/
theorem gen_muxTarget (kept : List Chan) (proto : Str) :
    muxTarget kept proto = (kept.find? (fun c => decide (proto = '/' :: c.name))).map (·.target) := rfl

theorem gen_handlers (kept : List Chan) : handlers kept = kept.map (fun c => '/' :: c.name) := rfl

theorem clientProto_eq (n : Str) : clientProto n = '/' :: n := rfl

/-! ## what Find, Filter, one request and Startup compute -/

theorem find_some_name {chs : List Chan} {n : Str} {c : Chan} (h : find chs n = some c) : c.name = n := by
  simpa [find] using List.find?_some h

theorem find_filterMap (chs : List Chan) (n : Str) (allow : List Str) :
    find (allow.filterMap (find chs)) n = if n ∈ allow then find chs n else none := by
  induction allow with
  | nil => rfl
  | cons a rest ih =>
    simp only [List.filterMap_cons, List.mem_cons]
    cases hf : find chs a with
    | none =>
      by_cases han : n = a
      · subst han; simp [ih, hf]
      · simp [han, ih]
    | some c =>
      have hc := find_some_name hf
      by_cases han : n = a
      · subst han; simp [find, hc, ← hf]
      · have : ¬ c.name = n := fun h => han (h.symm.trans hc)
        simpa [find, this, han] using ih

theorem find_filter (chs : List Chan) (allow : List Str) (n : Str) :
    find (filter chs allow).1 n = if allow = [] ∨ n ∈ allow then find chs n else none := by
  unfold filter
  cases allow with
  | nil => simp
  | cons a rest =>
    simp only [List.isEmpty_cons, Bool.false_eq_true, if_false]
    rw [find_filterMap]
    simp

theorem serve_eq (ms : List Str → Str → Bool) (hms : ExactMatch ms) (kept : List Chan) (proto : Str) :
    serve ms kept proto =
      match kept.find? (fun c => decide (proto = '/' :: c.name)) with
      | some c => (.connect c.target, [c.target])
      | none => (.refused, []) := by
  unfold serve
  rw [gen_muxTarget, gen_handlers]
  cases hf : kept.find? (fun c => decide (proto = '/' :: c.name)) with
  | none => split <;> rfl
  | some c =>
    -- the channel found registered its id as a handler
    have hp : proto = '/' :: c.name := by simpa using List.find?_some hf
    have hm : ms (kept.map fun c => '/' :: c.name) proto = true :=
      (hms _ _).mpr (List.mem_map.mpr ⟨c, List.mem_of_find?_eq_some hf, hp.symm⟩)
    rw [hm]; rfl

theorem find?_slash (kept : List Chan) (n : Str) :
    kept.find? (fun c => decide ('/' :: n = '/' :: c.name)) = find kept n := by
  simp only [find, List.cons.injEq, true_and, eq_comm]

/-- **the routing rule**: every routing theorem below is this one, read through what `run` / `runAt` serve the request
    with -/
theorem serve_filter_connect (ms : List Str → Str → Bool) (hms : ExactMatch ms) (chs : List Chan) (allow : List Str)
    (proto : Str) (t : Nat) :
    (serve ms (filter chs allow).1 proto).1 = .connect t ↔
      ∃ n, proto = '/' :: n ∧ (allow = [] ∨ n ∈ allow) ∧ ∃ c, find chs n = some c ∧ c.target = t := by
  rw [serve_eq ms hms]
  constructor
  · intro h
    split at h
    · rename_i c hf
      have hp : proto = '/' :: c.name := by simpa using List.find?_some hf
      subst hp
      rw [find?_slash, find_filter, Option.ite_none_right_eq_some] at hf
      exact ⟨c.name, rfl, hf.1, c, hf.2, Res.connect.inj h⟩
    · cases h
  · rintro ⟨n, rfl, ha, c, hf, rfl⟩
    rw [find?_slash, find_filter, if_pos ha, hf]

theorem serve_dials (ms : List Str → Str → Bool) (kept : List Chan) (proto : Str) :
    (serve ms kept proto).2 = match (serve ms kept proto).1 with | .connect t => [t] | _ => [] := by
  unfold serve
  split
  · split <;> rfl
  · rfl

theorem startup_cases (k : Kind) (chs : List Chan) (allow : List Str) :
    (filter chs allow).2 = false ∧ startup k chs allow = ⟨false, true, (filter chs allow).1⟩ ∨
    (startup k chs allow).listening = false ∧ (startup k chs allow).kept = [] := by
  unfold startup
  cases k with
  | http a2 => cases h1 : (filter chs allow).2 <;> cases h2 : (filter chs a2).2 <;> simp [h1, h2]
  | _ => cases h1 : (filter chs allow).2 <;> simp [h1]

/-- **fail closed**: whenever Filter reports an error (an unknown name in the allow-list of this endpoint —
    or of any other websocket endpoint of the same HTTP server — or an empty result), nothing listens and
    no channel is kept, for every server kind; in particular every Startup that returns an error exposes
    nothing, and the stdio Startup, which returns the wrong (nil) variable, exposes the empty set -/
theorem C03_startup_fail_closed (k : Kind) (chs : List Chan) (allow : List Str) :
    ((filter chs allow).2 = true → (startup k chs allow).listening = false ∧ (startup k chs allow).kept = []) ∧
    ((startup k chs allow).err = true → (startup k chs allow).listening = false ∧ (startup k chs allow).kept = []) ∧
    ((startup k chs allow).listening = true → (startup k chs allow).kept = (filter chs allow).1 ∧ (filter chs allow).2 = false) := by
  rcases startup_cases k chs allow with ⟨hf, hs⟩ | hc
  · rw [hs, hf]; simp
  · rw [hc.1]; simp [hc]

/-- the four listener kinds report the filter error (not so stdio on the current tree, see notes) -/
theorem C03_startup_reports_error :
    socketFilterErrReturns = "err" ∧ packetFilterErrReturns = "err" ∧ dnsFilterErrReturns = "err" ∧
    httpFilterErrReturns = "errs-collected-before-listen" := ⟨rfl, rfl, rfl, rfl⟩

/-! ## one server -/

/-- the result of a request, end to end (Startup with the endpoint's allow-list, then one stream) -/
def route (ms : List Str → Str → Bool) (k : Kind) (chs : List Chan) (allow : List Str) (proto : Str) : Res :=
  (run ms k chs allow proto).2.1

def dials (ms : List Str → Str → Bool) (k : Kind) (chs : List Chan) (allow : List Str) (proto : Str) : List Nat :=
  (run ms k chs allow proto).2.2

theorem run_eq (ms : List Str → Str → Bool) (k : Kind) (chs : List Chan) (allow : List Str) (proto : Str) :
    (run ms k chs allow proto).2 =
      if (startup k chs allow).listening then serve ms (filter chs allow).1 proto else (.unreachable, []) := by
  unfold run
  rcases startup_cases k chs allow with ⟨_, hs⟩ | ⟨hl, _⟩
  · simp [hs]
  · simp [hl]

/-- **routing**: the request is connected to target `t` iff it is "/"+n for a name n that the endpoint
    serves (allow-list empty or containing n, and the server started) and `t` is the target of the *first*
    configured channel named n -/
theorem C03_route_iff (ms : List Str → Str → Bool) (hms : ExactMatch ms) (k : Kind) (chs : List Chan)
    (allow : List Str) (proto : Str) (t : Nat) :
    route ms k chs allow proto = .connect t ↔
      ∃ n, proto = '/' :: n ∧ (startup k chs allow).listening = true ∧ (allow = [] ∨ n ∈ allow) ∧
        ∃ c, find chs n = some c ∧ c.target = t := by
  unfold route
  rw [run_eq]
  by_cases hl : (startup k chs allow).listening = true
  · simp [hl, serve_filter_connect ms hms]
  · simp [hl]

/-- **no dial without a route**: whatever the request, the targets dialled are exactly [t] when the result is
    `connect t`, and none otherwise (refused, or the server never started) -/
theorem C03_refused_no_dial (ms : List Str → Str → Bool) (k : Kind) (chs : List Chan)
    (allow : List Str) (proto : Str) :
    dials ms k chs allow proto =
      match route ms k chs allow proto with
      | .connect t => [t]
      | _ => [] := by
  unfold dials route
  rw [run_eq]
  split
  · exact serve_dials ms _ proto
  · rfl

/-- **exact names only**: a protocol id without the leading "/" is never routed, and "/"+r is never routed
    unless r is, character for character, the name of a configured channel — prefixes, extensions, case
    variants and the empty name of configured names are different strings and are refused without a dial -/
theorem C03_no_prefix_case (ms : List Str → Str → Bool) (hms : ExactMatch ms) (k : Kind) (chs : List Chan)
    (allow : List Str) :
    (∀ proto, (∀ r, proto ≠ '/' :: r) → ∀ t, route ms k chs allow proto ≠ .connect t) ∧
    (∀ r, (∀ c ∈ chs, c.name ≠ r) → ∀ t, route ms k chs allow ('/' :: r) ≠ .connect t) ∧
    (∀ r, (∀ c ∈ chs, c.name ≠ r) → dials ms k chs allow ('/' :: r) = []) := by
  have noroute (r : Str) (hr : ∀ c ∈ chs, c.name ≠ r) (t : Nat) : route ms k chs allow ('/' :: r) ≠ .connect t := by
    intro h
    obtain ⟨n, e, _, _, c, hf, _⟩ := (C03_route_iff ms hms k chs allow _ t).mp h
    cases e
    exact hr c (List.mem_of_find?_eq_some hf) (find_some_name hf)
  refine ⟨?_, noroute, ?_⟩
  · intro proto hp t h
    obtain ⟨n, e, _⟩ := (C03_route_iff ms hms k chs allow proto t).mp h
    exact hp n e
  · intro r hr
    rw [C03_refused_no_dial]
    cases h : route ms k chs allow ('/' :: r) with
    | connect t => exact absurd h (noroute r hr t)
    | refused | unreachable => rfl

/-! ## per endpoint: several servers sharing the table, several websocket paths

  The allow-list that decides a request is the one configured for the endpoint (server, and for HTTP the
  websocket path) the request arrived on — not that of another path of the same HTTP server, nor that of
  another server started from the same channel table. -/

/-- the allow-list *configured* for the endpoint (server `i`, `path`), when that endpoint is served at all:
    the server started (for HTTP: every endpoint's list passed Filter) and, for HTTP, `path` is the path of
    one of its endpoints (the first of that path) -/
def endpointAllow (chs : List Chan) (srvs : List Srv) (i : Nat) (path : Str) : Option (List Str) :=
  match srvs[i]? with
  | none => none
  | some (.plain k allow) => if (startup k chs allow).listening then some allow else none
  | some (.http eps) =>
    if httpErr chs eps then none else (eps.find? (fun e => decide (e.1 = path))).map (·.2)

def routeAt (ms : List Str → Str → Bool) (chs : List Chan) (srvs : List Srv) (i : Nat) (path proto : Str) : Res :=
  (runAt ms chs srvs i path proto).1

def dialsAt (ms : List Str → Str → Bool) (chs : List Chan) (srvs : List Srv) (i : Nat) (path proto : Str) : List Nat :=
  (runAt ms chs srvs i path proto).2

theorem runAt_eq (ms : List Str → Str → Bool) (chs : List Chan) (srvs : List Srv) (i : Nat) (path proto : Str) :
    runAt ms chs srvs i path proto =
      match endpointAllow chs srvs i path with
      | none => (.unreachable, [])
      | some allow => serve ms (filter chs allow).1 proto := by
  unfold runAt endpointAllow
  cases srvs[i]? with
  | none => rfl
  | some s =>
    cases s with
    | plain k allow =>
      rcases startup_cases k chs allow with ⟨_, hs⟩ | ⟨hl, _⟩
      · simp [endpointKept, hs]
      · simp [endpointKept, hl]
    | http eps =>
      simp only [endpointKept]
      cases httpErr chs eps with
      | true => rfl
      | false => cases eps.find? (fun e => decide (e.1 = path)) <;> rfl

/-- **routing per endpoint**: a request arriving on endpoint (server i, path) is connected to target `t` iff
    it is "/"+n, that endpoint is served, n is allowed *by the allow-list configured for that endpoint*
    (empty = all), and `t` is the target of the first configured channel named n -/
theorem C03_routeAt_iff (ms : List Str → Str → Bool) (hms : ExactMatch ms) (chs : List Chan) (srvs : List Srv)
    (i : Nat) (path proto : Str) (t : Nat) :
    routeAt ms chs srvs i path proto = .connect t ↔
      ∃ n allow, proto = '/' :: n ∧ endpointAllow chs srvs i path = some allow ∧ (allow = [] ∨ n ∈ allow) ∧
        ∃ c, find chs n = some c ∧ c.target = t := by
  unfold routeAt
  rw [runAt_eq]
  cases endpointAllow chs srvs i path with
  | none => simp
  | some allow => simp [serve_filter_connect ms hms]

/-- **no dial without a route, per endpoint**: the targets dialled are exactly [t] when the request was
    connected to t, and none when it was refused or the endpoint is not served -/
theorem C03_refusedAt_no_dial (ms : List Str → Str → Bool) (chs : List Chan) (srvs : List Srv)
    (i : Nat) (path proto : Str) :
    dialsAt ms chs srvs i path proto =
      match routeAt ms chs srvs i path proto with
      | .connect t => [t]
      | _ => [] := by
  unfold dialsAt routeAt
  rw [runAt_eq]
  cases endpointAllow chs srvs i path with
  | none => rfl
  | some allow => exact serve_dials ms _ proto

/-- **isolation**: once the server is up, what a request gets on an endpoint does not depend on the other
    servers of the configuration nor on the allow-lists of the other websocket paths of the same HTTP server:
    it is what a lone socket server with that endpoint's allow-list would answer -/
theorem C03_endpoint_isolated (ms : List Str → Str → Bool) (chs : List Chan) (srvs : List Srv)
    (i : Nat) (path proto : Str) (allow : List Str) (h : endpointAllow chs srvs i path = some allow) :
    runAt ms chs srvs i path proto = serve ms (filter chs allow).1 proto := by
  rw [runAt_eq, h]

def cfg : List Chan := [⟨"ssh".toList, 0⟩, ⟨"web".toList, 1⟩, ⟨"ssh".toList, 2⟩, ⟨"SSH".toList, 3⟩]

theorem exact_is_ExactMatch : ExactMatch exact := by
  intro hs tok; simp [exact]

-- routed to the first channel of that name, one dial
example : run exact .socket cfg [] "/ssh".toList = (⟨false, true, cfg⟩, .connect 0, [0]) := by decide
example : route exact .socket cfg ["SSH".toList] "/SSH".toList = .connect 3 := by decide
-- configured but not allowed on this endpoint: refused, no dial
example : (run exact .socket cfg ["web".toList] "/ssh".toList).2 = (.refused, []) := by decide
-- prefix, extension, case variant, empty, missing slash
example : (run exact .socket cfg [] "/ss".toList).2 = (.refused, []) := by decide
example : (run exact .socket cfg [] "/sshd".toList).2 = (.refused, []) := by decide
example : (run exact .socket cfg [] "/Ssh".toList).2 = (.refused, []) := by decide
example : (run exact .socket cfg [] "/".toList).2 = (.refused, []) := by decide
example : (run exact .socket cfg [] "ssh".toList).2 = (.refused, []) := by decide
-- an unknown name in an allow-list: no listener (and one bad websocket endpoint stops the whole HTTP server)
example : (startup .socket cfg ["ssh".toList, "nope".toList]).listening = false := by decide
example : (startup (.http ["nope".toList]) cfg ["ssh".toList]).listening = false := by decide
example : (startup (.http ["web".toList]) cfg ["ssh".toList]).kept = [⟨"ssh".toList, 0⟩] := by decide

-- two websocket paths with different allow-lists: each enforces its own (not the last one's)
def twoPaths : List Srv := [.http [("ws/a".toList, ["ssh".toList]), ("ws/b".toList, ["web".toList])], .plain .socket ["web".toList]]
example : runAt exact cfg twoPaths 0 "ws/a".toList "/web".toList = (.refused, []) := by decide
example : runAt exact cfg twoPaths 0 "ws/a".toList "/ssh".toList = (.connect 0, [0]) := by decide
example : runAt exact cfg twoPaths 0 "ws/b".toList "/web".toList = (.connect 1, [1]) := by decide
example : runAt exact cfg twoPaths 0 "ws/b".toList "/ssh".toList = (.refused, []) := by decide
example : runAt exact cfg twoPaths 0 "ws/c".toList "/ssh".toList = (.unreachable, []) := by decide
example : runAt exact cfg twoPaths 1 [] "/ssh".toList = (.refused, []) := by decide
example : endpointAllow cfg twoPaths 0 "ws/a".toList = some ["ssh".toList] := by decide

end SA.Props.C03

#print axioms SA.Props.C03.C03_gen_prefixes
#print axioms SA.Props.C03.C03_gen_filter_shape
#print axioms SA.Props.C03.C03_gen_endpoint_lists
#print axioms SA.Props.C03.C03_startup_fail_closed
#print axioms SA.Props.C03.C03_startup_reports_error
#print axioms SA.Props.C03.C03_route_iff
#print axioms SA.Props.C03.C03_refused_no_dial
#print axioms SA.Props.C03.C03_no_prefix_case
#print axioms SA.Props.C03.C03_routeAt_iff
#print axioms SA.Props.C03.C03_refusedAt_no_dial
#print axioms SA.Props.C03.C03_endpoint_isolated

namespace SA.PkgState
/-- **no_hidden_process_state**: the models of this property are functions of their arguments and of the objects they are
    handed; the packages they model keep no package-level variables besides these (regenerated inventory: error
    sentinels, tables, compiled patterns, the two session time-outs).  A new package-level variable — a counter, a cache, a
    scratch buffer, a shared map, a registry — would make later calls depend on earlier ones, or concurrent calls on each
    other, outside anything a per-call comparison of model and code can see. -/
theorem C03_no_hidden_process_state :
    Gen.pkgVarNames_server = ["ChannelRegex"] := rfl

/-- **per_item_handlers**: the module's language version is go 1.14 — a loop has one variable for all its iterations.
    No function literal inside a loop body captures a variable that the loop (re)assigns on every iteration, so the
    handler, callback or goroutine set up for one channel / endpoint / connection is not silently bound to a later
    one (regenerated inventory).  The three entries are addresses of a loop variable that are consumed before the next
    iteration: `EndpointHandler(&endpoint, …)` reads one field synchronously, and the two command look-ups leave their
    loop at once (`cmd = &c; break` / `return`). -/
theorem C03_per_item_handlers :
    Gen.goDirective = "1.14" ∧
    Gen.loopVarCaptures = ["internal/server/http_server.go Startup: address of loop variable endpoint taken", "internal/streams/dns/commands/serializer.go DetectCommandType: address of loop variable v taken", "internal/streams/dns/dns_server_connection.go onMessage: address of loop variable c taken"] := ⟨rfl, rfl⟩

/-- **dns_endpoints_have_their_own_handler**: a DNS tunnel endpoint registers its query handler on a handler table of its
    own, installed before the server starts to serve (regenerated) — not on the DNS library's process-wide default table,
    where the endpoint registered last would answer the queries of every DNS endpoint of the process with *its*
    session table and *its* allow-list.  This is what lets `runAt` (SA.Model.Routing) treat DNS endpoints like the
    other server kinds: the request is judged by the list of the endpoint it arrived on. -/
theorem C03_dns_endpoints_have_their_own_handler :
    Gen.dnsHandlerOnOwnMux = true ∧
    Gen.globalRegistrations = ["internal/streams/dns/util/socketace_private_rr.go: dns.PrivateHandle"] := ⟨rfl, rfl⟩
end SA.PkgState

#print axioms SA.PkgState.C03_no_hidden_process_state
#print axioms SA.PkgState.C03_per_item_handlers
#print axioms SA.PkgState.C03_dns_endpoints_have_their_own_handler
