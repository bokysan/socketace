/-
  C11 — DNS auto-negotiation only settles on parameters that work.

  The model (SA.Model.DnsHandshake) is the client's Handshake as a function of an abstract path oracle
  `Oracle = Probe → Out`; the theorems quantify over EVERY oracle (every path behaviour, including ones
  no simulated path produces), every tunnel domain length, and — where stated for a general `cfg` —
  every configuration with the stated shape.  `Cfg.gen` is the configuration regenerated from the
  source on every run; the side conditions on it are discharged by evaluation against those facts.
-/
import SA.Proofs.DnsHandshake
import SA.Gen.PkgVars
namespace SA.DnsHandshake

theorem gen_halving : Halving Cfg.gen := ⟨rfl, by decide⟩
theorem gen_halves : Cfg.gen.fragHalvesEveryRound = true := rfl
theorem gen_raw : Cfg.gen.rawOnSuccess = true := rfl
theorem gen_assigned : Cfg.gen.downAlwaysAssigned = true := rfl
theorem gen_mismatch : Cfg.gen.downMismatchIsError = true := rfl

/-- the two repairs that are not part of the decision logic are present in the source: the fragment
    size probe is padded to the longest question (so that `C11_fragment_probe_monotone`'s hypothesis
    "probed with the maximal name length" describes the code), and an answer without data is rejected
    before it is indexed (so that no probe outcome is a client panic). -/
theorem C11_repairs_in_source :
    SA.Gen.C11.fragProbePadded = true ∧ SA.Gen.C11.emptyAnswerChecked = true ∧
    SA.Gen.C11.fragClampsStep = true := ⟨rfl, rfl, rfl⟩

/-! ### termination -/

/-- Fragment size search of any configuration with the repaired shape (range halved every round, loop
    stops at range 0): if the initial range is below 2^k and the model's fuel is at least k, the search
    ends by itself after at most k rounds and fragTries·k queries, whatever the path answers. -/
theorem C11_terminates_search_general (cfg : Cfg) (hc : Halving cfg) (hh : cfg.fragHalvesEveryRound = true)
    (k : Nat) (hk : (FS.init cfg).range < 2 ^ k) (hf : k ≤ fragFuel cfg) (O : Oracle) (st : St) :
    (fragSearch O cfg st).1 ≠ .outOfFuel ∧ (fragSearch O cfg st).2.length ≤ cfg.fragTries * k := by
  rw [fragSearch_halving hh]
  exact fragLoop_bounded hc _ _ k hk hf

/-- the instance for today's constants: the initial range is `fragTop - fragStart` = 8192 − 768 = 7424 < 2^13, so
    `k = 13` rounds of at most `fragTries` = 3 queries each: 39 -/
theorem C11_terminates_search (O : Oracle) (st : St) :
    (fragSearch O Cfg.gen st).1 ≠ .outOfFuel ∧ (fragSearch O Cfg.gen st).2.length ≤ 39 :=
  C11_terminates_search_general Cfg.gen gen_halving gen_halves 13 (by decide) (by decide) O st

/-- **terminates**: for every path oracle and every domain the repaired Handshake ends by itself — the
    model never runs out of fuel — after at most 136 queries; the bound does not depend on the path.
    (136 is `hsBound Cfg.gen 39`, which Lean evaluates when it checks the term.) -/
theorem C11_terminates (O : Oracle) (dom : Nat) :
    (handshake Cfg.gen O dom).1 ≠ .outOfFuel ∧ (handshake Cfg.gen O dom).2.length ≤ 136 :=
  handshake_bounded Cfg.gen O dom 39 (C11_terminates_search O)

/-! ### the search as found never ends -/

/-- a path on which every fragment probe is lost (e.g. CNAME only: no answer can carry 768 bytes) -/
def lossy : Oracle := fun _ => .t

/-- **witness_loop**: in the shape as found, from the initial state (proposal 768) a lost probe leaves
    the search state unchanged while the loop condition still holds — `round s = s` — hence the search
    is out of fuel for every fuel: Handshake never returns.  Reproduces on the real code (before the
    repair): corpus/C11/paths.ops, CNAME-only path and answer size limit 1500. -/
theorem C11_witness_loop (st : St) :
    fragCont Cfg.asFound (FS.init Cfg.asFound) = true ∧
    (oldInner lossy Cfg.asFound st Cfg.asFound.fragTries (FS.init Cfg.asFound)).1 = (FS.init Cfg.asFound, false) ∧
    ∀ fuel, (oldLoop lossy Cfg.asFound st fuel (FS.init Cfg.asFound)).1 = .outOfFuel := by
  have hc : fragCont Cfg.asFound (FS.init Cfg.asFound) = true := by decide
  have hi : (oldInner lossy Cfg.asFound st Cfg.asFound.fragTries (FS.init Cfg.asFound)).1 = (FS.init Cfg.asFound, false) :=
    rfl
  refine ⟨hc, hi, fun fuel => ?_⟩
  induction fuel with
  | zero => rw [oldLoop, if_pos hc]
  | succ n ih => rw [oldLoop, if_pos hc]; simp only [hi]; exact ih

/-- the same path under the repaired shape: the search ends (with no usable size) -/
example (st : St) : (fragSearch lossy Cfg.gen st).1 ≠ .outOfFuel := (C11_terminates_search lossy st).1

/-! ### failure is reported -/

/-- **failure_reported**: if no record type passes its query type test, the handshake returns
    ErrConnectionFailed (any configuration, any other behaviour of the path). -/
theorem C11_failure_reported (cfg : Cfg) (O : Oracle) (dom : Nat) (hno : ∀ q, O (typeProbe cfg q) ≠ .k) :
    (handshake cfg O dom).1 = .err .connfailed := by
  unfold handshake
  generalize h : typeDetect O cfg = r
  rcases r with ⟨_ | q, t⟩
  · rfl
  · exact absurd (typeDetect_sound h rfl) (hno q)

/-- non-vacuity: a path that answers nothing at all; 24 queries, as observed on the real code -/
example : handshake Cfg.gen lossy 11 = (.err .connfailed, (handshake Cfg.gen lossy 11).2) ∧
    (handshake Cfg.gen lossy 11).2.length = 24 := by decide

/-! ### success is justified by probes -/

/-- what a successful negotiation guarantees about the oracle (= about the path, as probed) -/
structure Justified (cfg : Cfg) (O : Oracle) (p : Params) : Prop where
  /-- the selected record type passed the query type test -/
  typeOk : O (typeProbe cfg p.q) = .k
  /-- the version exchange over that type succeeded -/
  versionOk : O (({ q := p.q } : St).probe .v) = .k
  /-- an upstream codec other than Base32: all its test patterns came back unchanged, and the server
      acknowledged the switch -/
  upOk : p.up ≠ .b32 →
    (∀ i, i < cfg.patternCount p.up → O (({ q := p.q, edns := p.edns } : St).probe (.z p.up i)) = .k) ∧
    O (({ q := p.q, edns := p.edns, up := some p.up } : St).probe (.oUp p.up)) = .k
  /-- a downstream codec other than Base32 on a type where it is not forced: its download check came
      back intact over the selected type with the selected upstream codec, and the server acknowledged -/
  downOk : p.q ∉ cfg.downRawTypes → p.down ≠ .b32 →
    O (({ q := p.q, edns := p.edns, up := some p.up } : St).probe (.y p.down)) = .k ∧
    O (({ q := p.q, edns := p.edns, up := some p.up, down := some p.down } : St).probe (.oDown p.down false)) = .k
  /-- the fragment size: the probe of size downfrag + header passed with exactly the negotiated type and
      codecs, that size is at least fragSmall, and the server acknowledged the setting -/
  fragOk : p.downfrag ≠ 0 →
    O (({ q := p.q, edns := p.edns, up := some p.up, down := some p.down, lzy := p.lzy } : St).probe (.r (p.downfrag + cfg.fragHeader))) = .k ∧
    O (({ q := p.q, edns := p.edns, up := some p.up, down := some p.down, lzy := p.lzy } : St).probe (.oFrag p.downfrag)) = .k ∧
    cfg.fragSmall ≤ p.downfrag + cfg.fragHeader

/-- **success_sound (partial)**: for every configuration with the repaired selection logic, every oracle
    and domain: if Handshake reports success with parameters p, every probe behind p passed. -/
theorem C11_success_sound_partial (cfg : Cfg) (hh : cfg.fragHalvesEveryRound = true) (hr : cfg.rawOnSuccess = true)
    (ha : cfg.downAlwaysAssigned = true) (hm : cfg.downMismatchIsError = true) (hhd : cfg.fragHeader ≤ cfg.fragSmall)
    (O : Oracle) (dom : Nat) (p : Params) (tr : List Probe)
    (h : handshake cfg O dom = (.ok p, tr)) : Justified cfg O p := by
  obtain ⟨d0, s, r⟩ := handshake_ok_phases h
  exact {
    typeOk := typeDetect_sound rfl r.type
    versionOk := versionPhase_sound rfl r.version
    upOk := r.up ▸ up_sound rfl rfl
    downOk := r.down ▸ down_sound hr ha hm rfl r.detect rfl
    fragOk := fun hne => by
      -- the size in force is the search's `max`, a size whose probe passed, less the header
      have hk := (fragLoop_max (.inl rfl) (fragSearch_halving hh ▸ r.search)).resolve_left
        (Nat.ne_of_gt (Nat.zero_lt_of_lt r.found))
      obtain ⟨hf, hset⟩ := r.switch.resolve_left hne
      rw [hf, Nat.sub_add_cancel (Nat.le_trans hhd r.large)]
      exact ⟨hk, switchPhase_set rfl hset, r.large⟩ }

/-- the statement for the configuration in the source today -/
theorem C11_success_sound_gen (O : Oracle) (dom : Nat) (p : Params) (tr : List Probe)
    (h : handshake Cfg.gen O dom = (.ok p, tr)) : Justified Cfg.gen O p :=
  C11_success_sound_partial Cfg.gen gen_halves gen_raw gen_assigned gen_mismatch (by decide) O dom p tr h

/-- What `success_sound` would need in full strength (kept visible; NOT proved, and false for a general
    oracle): that the probes which passed imply that every payload of every size up to the negotiated
    fragment sizes is carried unchanged.  Missing links: (1) the upstream patterns cover the codec's
    alphabet (C08 tables) and the path's character map is pointwise; (2) DownloadCodecCheck (48 bytes)
    exercises neither '"', ';', '\\' nor most byte values, so a passed download check says nothing about
    them (C10's region); (3) nothing probes the upstream fragment size; the repaired fragment probe
    covers it only through the padded question.  On the simulated path family these are closed by the
    end-to-end monitor of the `dnshs` component, not by proof. -/
def C11_full : Prop :=
  ∀ (O : Oracle) (dom : Nat) (p : Params) (tr : List Probe), handshake Cfg.gen O dom = (.ok p, tr) →
    ∀ (carries : Params → List Nat → Prop) (payload : List Nat), carries p payload

/-- **fragment probe ⇒ capability (iii)**, at the level of hypotheses: if the packed answer size is
    monotone in the length of the question name and of the encoded payload (C10's packing), a probe of
    payload size f that fitted the limit with a question of the maximal length implies that a data
    answer with at most f − header payload bytes fits with any question.  `probeRaw f = f + 5`
    (status, 4-byte size, f bytes), `packetRaw d = d + 5` (status, ack, seq, d bytes). -/
theorem C11_fragment_probe_monotone (size : Nat → Nat → Nat) (limit nameMax : Nat)
    (mono : ∀ n n' l l', n ≤ n' → l ≤ l' → size n l ≤ size n' l')
    (f : Nat) (hprobe : size nameMax (f + 5) ≤ limit)
    (name d : Nat) (hn : name ≤ nameMax) (hd : d + 2 ≤ f) : size name (d + 5) ≤ limit :=
  Nat.le_trans (mono name nameMax (d + 5) (f + 5) hn (by omega)) hprobe

/-! ### the two selection defects as found (kernel-checked witnesses; both reproduce on the real code
    before the repairs, corpus/C11/paths.ops) -/

/-- a TXT-only path that is transparent: every probe over TXT passes -/
def txtClean : Oracle := fun pr => if pr.q = .txt then .k else .t

/-- as found: Base128 works and the Raw test passes ⇒ no downstream encoder is assigned at all; the Go
    code then dereferences nil in SetEncodingDownstream (model: panic) -/
theorem C11_witness_raw_inverted : (handshake Cfg.asFound txtClean 11).1 = .panic := by decide

/-- repaired: the same path negotiates TXT / Base128 / Raw -/
example : ∃ p tr, handshake Cfg.gen txtClean 11 = (.ok p, tr) ∧ p.q = .txt ∧ p.down = .raw := by
  refine ⟨_, _, rfl, ?_, ?_⟩ <;> decide

/-- a TXT-only path whose answers come back with the right length but changed content for every codec
    except Base32 (e.g. answers are lower-cased) -/
def txtFolded : Oracle := fun pr =>
  if pr.q = .txt then
    match pr.cmd with
    | .y .b32 => .k
    | .y _ => .c
    | .r _ => match pr.down with
      | some .b32 => .k
      | _ => .c
    | _ => .k
  else .t

/-- as found: a corrupted test reply counts as success, the densest codec is selected and the handshake
    fails at the fragment probe although Base32 works on this path -/
theorem C11_witness_mismatch_accepted :
    (handshake { Cfg.gen with downMismatchIsError := false } txtFolded 11).1 = .err .corrupt := by decide

/-- repaired: the same path settles on Base32 downstream and succeeds -/
example : ∃ p tr, handshake Cfg.gen txtFolded 11 = (.ok p, tr) ∧ p.down = .b32 := by
  refine ⟨_, _, rfl, ?_⟩; decide

end SA.DnsHandshake

#print axioms SA.DnsHandshake.C11_repairs_in_source
#print axioms SA.DnsHandshake.C11_terminates
#print axioms SA.DnsHandshake.C11_terminates_search
#print axioms SA.DnsHandshake.C11_terminates_search_general
#print axioms SA.DnsHandshake.C11_witness_loop
#print axioms SA.DnsHandshake.C11_failure_reported
#print axioms SA.DnsHandshake.C11_success_sound_partial
#print axioms SA.DnsHandshake.C11_success_sound_gen
#print axioms SA.DnsHandshake.C11_fragment_probe_monotone
#print axioms SA.DnsHandshake.C11_witness_raw_inverted
#print axioms SA.DnsHandshake.C11_witness_mismatch_accepted

namespace SA.PkgState
/-- **no_hidden_process_state**: the models of this property are functions of their arguments and of the objects they are
    handed; the packages they model keep no package-level variables besides these (regenerated inventory: error
    sentinels, tables, compiled patterns, the two session time-outs).  A new package-level variable — a counter, a cache, a
    scratch buffer, a shared map, a registry — would make later calls depend on earlier ones, or concurrent calls on each
    other, outside anything a per-call comparison of model and code can see. -/
theorem C11_no_hidden_process_state :
    Gen.pkgVarNames_dns = ["ConnectionTimeout", "ErrConnectionFailed", "ErrHandshakeNotCompleted", "OldConnectionTimeout"] := rfl
end SA.PkgState

#print axioms SA.PkgState.C11_no_hidden_process_state
