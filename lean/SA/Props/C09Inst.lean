/-
  C09, continued — the codec hypotheses discharged, and the client's own size budget proved safe.

  SA.Props.C09 proves the round trip for *any* codec pair meeting C08's `roundtrip` and
  `alphabet_safe`.  Here the pair is instantiated with property C08's models (`ofC08`, the very models
  the `dnsreq` correspondence runs against the real serializer) for every codec a client can select
  upstream — Base32, Base64, Base64u, Base85, Base91, Base128 — and the hypotheses are discharged by
  C08's theorems (`ofC08_good`, `ofC08_safe`).  Raw is excluded (not name-safe by design, TXT answers only)
  and so is Base192 (open finding C08-F1).

  `C09_payload_within_mtu_fits`: a packet request whose payload is at most `getUpstreamMtu` bytes
  (exact-rational model `upstreamMtu`, tied exhaustively to the float code on every run) is accepted by
  PrepareHostname, for every domain length and every payload.  It is `packet_fits` (SA.Proofs.DnsReq: any codec
  that expands by at least 8 : 7 and emits at most ratio · n + 2 characters) at the *tight* encoded lengths
  `ofC08_length`; C08's worded bound `⌈ratio·n⌉ + 8` is too weak for it (the margin of getUpstreamMtu is 10
  bytes, six of which are the request header) — see `C09_c08_slack_insufficient`.
-/
import SA.Props.C09
import SA.Props.C08
import SA.Model.WireCodecInst

/-! ### C08's theorems as the hypotheses `Codec.Good` / `Codec.Safe` of the wire models -/

namespace SA.WireCodec

/-- the codecs a client can select for the upstream direction: the registry without Raw (not
    name-safe by design, TXT answers only) and without Base192 (open finding C08-F1) -/
def upstreamCodecs : List SA.Codec.Codec := [.b32, .b64, .b64u, .b85, .b91, .b128]

theorem gen_upstream_proved :
    ∀ cd ∈ upstreamCodecs, cd ∈ SA.Codec.registry ∧ cd ≠ .b192 ∧ SA.Codec.isText cd = true := by decide

theorem ofC08_good (cd : SA.Codec.Codec) (h : cd ∈ upstreamCodecs) : (ofC08 cd).Good :=
  have ⟨hreg, hne, _⟩ := gen_upstream_proved cd h
  ⟨(SA.Codec.C08_partial cd hreg hne).1⟩

theorem ofC08_safe (cd : SA.Codec.Codec) (h : cd ∈ upstreamCodecs) : (ofC08 cd).Safe :=
  have ⟨hreg, hne, htext⟩ := gen_upstream_proved cd h
  ⟨fun bs hbs x hx => SA.DnsReq.SafeByte.of_dnsSafe ((SA.Codec.C08_partial cd hreg hne).2.1 htext bs hbs x hx)⟩

/-- what the selectable codecs really emit: at most ratio · n + 2 characters (C08's worded bound allows 8,
    which the client's size budget cannot afford) -/
theorem ofC08_length (cd : SA.Codec.Codec) (bs : List Nat) (hbs : SA.Bytes bs) :
    cd.ratio.2 * ((ofC08 cd).enc bs).length ≤ cd.ratio.1 * bs.length + 2 * cd.ratio.2 :=
  SA.Codec.length_tight cd bs hbs

end SA.WireCodec

namespace SA.DnsReq
open SA.DnsWire SA.WireCodec

/-- the ratio table used by the `mtu` model (SA.Gen.C09, from `Ratio()`) and C08's registry
    (SA.Gen.C08) list the same codes with the same exact ratios -/
theorem C09_ratio_tables_agree :
    ∀ cd ∈ SA.Codec.registry,
      SA.Gen.C09.codecRatios.find? (·.1 == cd.code) = some (cd.code, cd.ratio.1, cd.ratio.2) := by
  decide

/-- getUpstreamMtu (single-query mode) for a C08 codec -/
def upstreamMtuOf (domainLen : Nat) (cd : SA.Codec.Codec) : Option Nat :=
  upstreamMtu domainLen cd.ratio.1 cd.ratio.2 false

/-- **C09, round trip, no codec hypotheses.**  Hard-wired Base32 = C08's Base32 model, upstream codec =
    C08's model of any selectable codec. -/
theorem C09_request_roundtrip_inst (cd : SA.Codec.Codec) (hcd : cd ∈ upstreamCodecs)
    (cache domain : List Nat) (dls : List (List Nat)) (hc : CacheOk cache) (hdom : DomainOk domain dls)
    (r : Req) (hr : ReqOk r) (host : List Nat)
    (hfit : prepareHostname (encodeReq (ofC08 .b32) (ofC08 cd) cache r) domain = some host) :
    ∃ labels, nameOverWire host = .ok labels
      ∧ roundTrip (ofC08 .b32) (ofC08 cd) cache domain r = .ok (unpackName labels) labels r :=
  C09_request_roundtrip (ofC08 .b32) (ofC08 cd) (ofC08_good .b32 (by decide)) (ofC08_good cd hcd)
    (ofC08_safe .b32 (by decide)) (ofC08_safe cd hcd) cache domain dls hc hdom r hr host hfit

/-- the statement of `C09_request_roundtrip_inst` for one upstream codec -/
def RoundTripFor (cd : SA.Codec.Codec) : Prop :=
  ∀ (cache domain : List Nat) (dls : List (List Nat)), CacheOk cache → DomainOk domain dls →
    ∀ (r : Req), ReqOk r → ∀ (host : List Nat),
      prepareHostname (encodeReq (ofC08 .b32) (ofC08 cd) cache r) domain = some host →
      ∃ labels, nameOverWire host = .ok labels
        ∧ roundTrip (ofC08 .b32) (ofC08 cd) cache domain r = .ok (unpackName labels) labels r

theorem C09_request_roundtrip_b32 : RoundTripFor .b32 := C09_request_roundtrip_inst .b32 (by decide)
theorem C09_request_roundtrip_b64 : RoundTripFor .b64 := C09_request_roundtrip_inst .b64 (by decide)
theorem C09_request_roundtrip_b64u : RoundTripFor .b64u := C09_request_roundtrip_inst .b64u (by decide)
theorem C09_request_roundtrip_b85 : RoundTripFor .b85 := C09_request_roundtrip_inst .b85 (by decide)
theorem C09_request_roundtrip_b91 : RoundTripFor .b91 := C09_request_roundtrip_inst .b91 (by decide)
theorem C09_request_roundtrip_b128 : RoundTripFor .b128 := C09_request_roundtrip_inst .b128 (by decide)

/-- **C09, valid question, no codec hypotheses.** -/
theorem C09_labels_ok_inst (cd : SA.Codec.Codec) (hcd : cd ∈ upstreamCodecs)
    (cache domain : List Nat) (dls : List (List Nat)) (hc : CacheOk cache) (hdom : DomainOk domain dls)
    (r : Req) (hr : ReqOk r) (host : List Nat)
    (hfit : prepareHostname (encodeReq (ofC08 .b32) (ofC08 cd) cache r) domain = some host) :
    ∃ labels, nameOverWire host = .ok labels
      ∧ (∀ l ∈ labels, 1 ≤ l.length ∧ l.length ≤ 63)
      ∧ host.length ≤ 253
      ∧ wireOctets labels = host.length + 1 :=
  C09_labels_ok (ofC08 .b32) (ofC08 cd) (ofC08_safe .b32 (by decide)) (ofC08_safe cd hcd)
    cache domain dls hc hdom r hr host hfit

theorem gen_upstream_ratio : ∀ cd ∈ upstreamCodecs, 0 < cd.ratio.2 ∧ 8 * cd.ratio.2 ≤ 7 * cd.ratio.1 := by decide

/-- **C09, the client's own size budget is safe.**  For every selectable upstream codec, every tunnel
    domain (any length — when getUpstreamMtu is negative there is nothing to prove), every cache
    triple, user id, ack/sequence number: a packet request (with data or a bare poll) whose payload is
    at most getUpstreamMtu bytes is accepted by PrepareHostname. -/
theorem C09_payload_within_mtu_fits (cd : SA.Codec.Codec) (hcd : cd ∈ upstreamCodecs)
    (cache domain : List Nat) (hc : cache.length = 3) (uid ack : Nat) (pkt : Option (Nat × List Nat))
    (hbytes : ∀ p, pkt = some p → SA.Bytes p.2)
    (m : Nat) (hm : upstreamMtuOf domain.length cd = some m) (hlen : payloadLen pkt ≤ m) :
    ∃ host, prepareHostname (encodeReq (ofC08 .b32) (ofC08 cd) cache (.packet uid ack pkt)) domain
      = some host := by
  have ⟨hden, hratio⟩ := gen_upstream_ratio cd hcd
  exact packet_fits hden hratio (ofC08_length cd) domain hc uid ack pkt hbytes hm hlen

/-- **C09 for every size the client uses.**  Payload within the computed fragment size ⇒ the question is
    formed, packs, unpacks, and the server decodes the identical packet request. -/
theorem C09_payload_within_mtu_roundtrip (cd : SA.Codec.Codec) (hcd : cd ∈ upstreamCodecs)
    (cache domain : List Nat) (dls : List (List Nat)) (hc : CacheOk cache) (hdom : DomainOk domain dls)
    (uid ack : Nat) (pkt : Option (Nat × List Nat)) (hr : ReqOk (.packet uid ack pkt))
    (m : Nat) (hm : upstreamMtuOf domain.length cd = some m) (hlen : payloadLen pkt ≤ m) :
    ∃ host labels,
      prepareHostname (encodeReq (ofC08 .b32) (ofC08 cd) cache (.packet uid ack pkt)) domain = some host
      ∧ nameOverWire host = .ok labels
      ∧ roundTrip (ofC08 .b32) (ofC08 cd) cache domain (.packet uid ack pkt)
          = .ok (unpackName labels) labels (.packet uid ack pkt) := by
  obtain ⟨host, hfit⟩ := C09_payload_within_mtu_fits cd hcd cache domain hc.1 uid ack pkt
    hr.packet_bytes m hm hlen
  obtain ⟨labels, h1, h2⟩ := C09_request_roundtrip_inst cd hcd cache domain dls hc hdom _ hr host hfit
  exact ⟨host, labels, hfit, h1, h2⟩

/-- With only `C08_length_bound` (⌈ratio·n⌉ + 8) the budget could not be proved: for Base32 and a
    one-character domain getUpstreamMtu is 141, and 6 header characters + (⌈8·146/5⌉ + 8) encoded
    characters + 4 dots + domain + 2 dots = 255 > 251.  (The real Base32 emits exactly ⌈8·146/5⌉ = 234
    characters: 247 in all.)  A codec that actually used the 8 characters of slack would break the
    client's budget. -/
theorem C09_c08_slack_insufficient :
    upstreamMtuOf 1 .b32 = some 141 ∧
    (let E := SA.Codec.ceilMul (SA.Codec.Codec.ratio .b32) (141 + 5) + 8
     ¬ (6 + E + (if 6 + E > 60 then (6 + E - 1) / 57 else 0) + 1 + 2 ≤ 251)) ∧
    (let E := (8 * (141 + 5) + 4) / 5
     6 + E + (if 6 + E > 60 then (6 + E - 1) / 57 else 0) + 1 + 2 = 247) := by decide

/-- every hypothesis of `C09_payload_within_mtu_roundtrip` holds for a concrete domain ("t.ex"), the
    Base128 model and a payload of exactly getUpstreamMtu = 199 bytes of 0xff -/
example :
    let cache := [120, 121, 122]
    let domain := [116, 46, 101, 120]
    let r := Req.packet 1295 65535 (some (65535, List.replicate 199 255))
    upstreamMtuOf domain.length .b128 = some 199 ∧
    ∃ host labels, prepareHostname (encodeReq (ofC08 .b32) (ofC08 .b128) cache r) domain = some host
      ∧ nameOverWire host = .ok labels
      ∧ roundTrip (ofC08 .b32) (ofC08 .b128) cache domain r = .ok (unpackName labels) labels r := by
  intro cache domain r
  have hm : upstreamMtuOf domain.length .b128 = some 199 := by decide
  exact ⟨hm, C09_payload_within_mtu_roundtrip .b128 (by decide) cache domain _ cacheOk_xyz domainOk_tex 1295 65535 _
    (reqOk_packet (by decide) (by decide) (by decide) (bytes_replicate 199 255 (by decide)))
    199 hm (by simp only [payloadLen, List.length_replicate]; exact Nat.le_refl _)⟩

/-- the budget is not vacuous at the other end either: a 230-character domain still leaves Base32 a
    fragment size of 0 (polls only) and Base128 one of 4 bytes -/
example : upstreamMtuOf 230 .b32 = some 0 ∧ upstreamMtuOf 230 .b128 = some 4 ∧
    upstreamMtuOf 240 .b32 = none := by decide

set_option maxRecDepth 100000 in
/-- the executable instance on concrete requests: Base91 and Base85 upstream, the server sees the packet -/
example :
    (match roundTrip (ofC08 .b32) (ofC08 .b91) [97, 98, 99] [97, 46, 98] (.packet 7 300 (some (9, [0, 46, 92, 255]))) with
     | .ok _ _ r => r == .packet 7 300 (some (9, [0, 46, 92, 255]))
     | _ => false) = true ∧
    (match roundTrip (ofC08 .b32) (ofC08 .b85) [97, 98, 99] [97, 46, 98] (.packet 7 300 (some (9, [0, 0, 0, 0, 1]))) with
     | .ok _ _ r => r == .packet 7 300 (some (9, [0, 0, 0, 0, 1]))
     | _ => false) = true := by decide +kernel

end SA.DnsReq

#print axioms SA.DnsReq.C09_ratio_tables_agree
#print axioms SA.DnsReq.C09_request_roundtrip_inst
#print axioms SA.DnsReq.C09_request_roundtrip_b32
#print axioms SA.DnsReq.C09_request_roundtrip_b64
#print axioms SA.DnsReq.C09_request_roundtrip_b64u
#print axioms SA.DnsReq.C09_request_roundtrip_b85
#print axioms SA.DnsReq.C09_request_roundtrip_b91
#print axioms SA.DnsReq.C09_request_roundtrip_b128
#print axioms SA.DnsReq.C09_labels_ok_inst
#print axioms SA.DnsReq.C09_payload_within_mtu_fits
#print axioms SA.DnsReq.C09_payload_within_mtu_roundtrip
#print axioms SA.DnsReq.C09_c08_slack_insufficient
