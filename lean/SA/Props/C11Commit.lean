/-
  C11, continued — probe-then-COMMIT under a path that fails at the commit.

  `C11_success_sound_partial` is about a static path: the same probe always has the same outcome.  A real path loses
  single datagrams.  The decisive moment is the set-options exchange that makes the server adopt the probed value: if
  that one exchange fails and the client carries on as if nothing had happened, Handshake reports success while the
  server still uses its default (for the fragment size: 1534-byte fragments the path may not carry).

  Over the model SA.Model.DnsCommit, with the shapes of the four commit functions regenerated from the source
  (`gen_shape_*`, SA.Proofs.DnsCommit), a commit loop is judged by its first failing attempt.  A loop that returns the
  error of a failed exchange and adopts the value only on acknowledgement (SwitchFragmentSize) returns nil only with
  the value at both ends, under EVERY schedule of lost queries, lost answers and acknowledged attempts.  A loop whose
  client already holds the value and falls back on failure (the codec and lazy commits) leaves both ends agreeing under
  every schedule of LOST QUERIES.  Not covered, and named by the witnesses: the server-error branch and the recognised
  time-outs of SwitchFragmentSize return nil with the default in force, and a lost ANSWER of a codec switch leaves the
  server on the new codec and the client on Base32 (neither is reachable on the simulated family); the same loop with
  "communication error ⇒ log and return nil" (the single-exit tidy-up whose `return err` resolves to a fresh variable)
  returns nil after one lost query although the server cuts its default size.
-/
import SA.Proofs.DnsCommit
namespace SA.DnsCommit

def lossy (fs : List Fate) : Prop := ∀ f ∈ fs, f = .ok ∨ f = .ql ∨ f = .al
def queryLossOnly (fs : List Fate) : Prop := ∀ f ∈ fs, f = .ok ∨ f = .ql

/-- the regenerated shapes are the ones the theorems below are about -/
theorem C11_commit_shapes_in_source :
    Shape.gen "SwitchFragmentSize" = { tries := 5, commErr := .retErr, srvErr := .retNil, holdsReq := false } ∧
    Shape.gen "SetEncodingUpstream" = { tries := 5, commErr := .retNil, srvErr := .retNil, holdsReq := true } ∧
    Shape.gen "SetEncodingDownstream" = { tries := 5, commErr := .retNil, srvErr := .retNil, holdsReq := true } ∧
    Shape.gen "AutodetectLazyMode" = { tries := 5, commErr := .fallThrough, srvErr := .fallThrough, holdsReq := true } :=
  ⟨gen_shape_frag, gen_shape_up, gen_shape_down, gen_shape_lazy⟩

/-- a commit loop that returns the error of a failed exchange and adopts the value only on acknowledgement: nil ⇒ both
    ends hold the requested value — for every schedule of losses, every number of tries ≥ 1, every value -/
theorem C11_commit_sound_general (sh : Shape) (hc : sh.commErr = .retErr) (hh : sh.holdsReq = false)
    (req dflt : String) (k : Nat) (fs : List Fate) (hl : lossy fs) (st : St) (r : St)
    (h : loop { shape := sh, req := req, dflt := dflt } (k + 1) fs st = (.nil, r)) :
    r.cv = req ∧ r.sv = req := by
  -- the first attempt decides: acknowledged (both ends take the requested value), or the error is returned
  have acked {t} (h : loop { shape := sh, req := req, dflt := dflt } (k + 1) (.ok :: t) st = (.nil, r)) :
      r.cv = req ∧ r.sv = req := by
    simp only [loop_cons_ok, want, hh] at h; cases h; exact ⟨rfl, rfl⟩
  rcases fs with _ | ⟨f, t⟩
  · exact acked (loop_nil ▸ h)
  · obtain rfl | rfl | rfl := hl f List.mem_cons_self
    · exact acked h
    · simp only [loop_cons_ql, hc, onFail] at h; cases h
    · simp only [loop_cons_al, hc, onFail] at h; cases h

theorem C11_commit_frag_reports_failure (req : String) (fs : List Fate) (hl : lossy fs) (r : St)
    (h : run { shape := Shape.gen "SwitchFragmentSize", req := req, dflt := dfltOfStep "oFrag" } fs = (.nil, r)) :
    r.cv = req ∧ r.sv = req := by
  unfold run at h
  rw [gen_shape_frag] at h
  exact C11_commit_sound_general _ rfl rfl req _ 4 fs hl _ r h

/-- codec / lazy commits (client holds the value, falls back on failure): lost queries only ⇒ both ends agree -/
theorem C11_commit_agree_general (sh : Shape) (hh : sh.holdsReq = true) (hc : sh.commErr = .retNil ∨ sh.commErr = .fallThrough)
    (req dflt : String) :
    ∀ (k : Nat) (fs : List Fate), queryLossOnly fs → ∀ (st r : St) (ret : Ret), st.sv = dflt →
      loop { shape := sh, req := req, dflt := dflt } k fs st = (ret, r) → ret = .nil ∧ r.cv = r.sv := by
  intro k fs hl st r ret hsv h
  obtain ⟨rfl, rfl⟩ := Prod.ext_iff.1 h.symm
  -- at every attempt the server still holds the default, and that is what a client that gives up goes back to
  have gaveUp (st : St) (hsv : st.sv = dflt) : (failClient { shape := sh, req := req, dflt := dflt } st).cv =
      (failClient { shape := sh, req := req, dflt := dflt } st).sv :=
    (failClient_cv hh).trans (failClient_sv.trans hsv).symm
  induction k generalizing fs st with
  | zero => exact ⟨rfl, gaveUp st hsv⟩
  | succ k ih =>
    rcases fs with _ | ⟨f, t⟩
    · exact ⟨rfl, rfl⟩
    · obtain rfl | rfl := hl f List.mem_cons_self
      · exact ⟨rfl, rfl⟩
      · rw [loop_cons_ql]
        dsimp only
        rcases hc with hc | hc <;> rw [hc]
        · exact ⟨rfl, gaveUp _ hsv⟩
        · exact ih t (fun f hf => hl f (List.mem_cons_of_mem _ hf)) _ (failClient_sv.trans hsv) rfl

theorem C11_commit_codec_query_lost_sound (fn : String)
    (hfn : fn = "SetEncodingUpstream" ∨ fn = "SetEncodingDownstream" ∨ fn = "AutodetectLazyMode")
    (req dflt : String) (fs : List Fate) (hl : queryLossOnly fs) (ret : Ret) (r : St)
    (h : run { shape := Shape.gen fn, req := req, dflt := dflt } fs = (ret, r)) : ret = .nil ∧ r.cv = r.sv := by
  obtain ⟨hh, hc⟩ : (Shape.gen fn).holdsReq = true ∧
      ((Shape.gen fn).commErr = .retNil ∨ (Shape.gen fn).commErr = .fallThrough) := by
    rcases hfn with rfl | rfl | rfl
    · rw [gen_shape_up]; exact ⟨rfl, .inl rfl⟩
    · rw [gen_shape_down]; exact ⟨rfl, .inl rfl⟩
    · rw [gen_shape_lazy]; exact ⟨rfl, .inr rfl⟩
  exact C11_commit_agree_general _ hh hc req dflt _ fs hl _ r ret rfl h

/-- the tidy-up that swallows the communication error: one lost query, nil returned, the server still cuts 1534 -/
theorem C11_witness_commit_error_swallowed :
    run { shape := { tries := 5, commErr := .retNil, srvErr := .retNil, holdsReq := false }, req := "478", dflt := "1534" } [.ql]
      = (.nil, { cv := "0", sv := "1534", n := 1 }) := by decide

/-- as found: the server-error branch of SwitchFragmentSize returns the (nil) transport error -/
theorem C11_witness_commit_frag_server_error :
    run { shape := Shape.gen "SwitchFragmentSize", req := "478", dflt := "1534" } [.srvErr]
      = (.nil, { cv := "0", sv := "1534", n := 1 }) := by rw [gen_shape_frag]; rfl

/-- as found: a lost ANSWER of the upstream codec switch: server on Base128, client back on Base32, nil returned -/
theorem C11_witness_commit_codec_answer_lost :
    run { shape := Shape.gen "SetEncodingUpstream", req := "b128", dflt := "b32" } [.al]
      = (.nil, { cv := "b32", sv := "b128", n := 1 }) := by rw [gen_shape_up]; rfl

/-- non-vacuity: an acknowledged commit returns nil with the value at both ends; a lost one returns an error -/
example : run { shape := Shape.gen "SwitchFragmentSize", req := "478", dflt := "1534" } []
    = (.nil, { cv := "478", sv := "478", n := 1 }) := by rw [gen_shape_frag]; rfl
example : (run { shape := Shape.gen "SwitchFragmentSize", req := "478", dflt := "1534" } [.ql]).1 = .err := by
  rw [gen_shape_frag]; rfl
example : lossy [.ql, .al, .ok] := by intro f hf; simp at hf; rcases hf with h | h | h <;> simp [h]
example : run { shape := Shape.gen "AutodetectLazyMode", req := "1", dflt := "0" } [.ql]
    = (.nil, { cv := "0", sv := "0", n := 2 }) := by rw [gen_shape_lazy]; rfl

end SA.DnsCommit

#print axioms SA.DnsCommit.C11_commit_shapes_in_source
#print axioms SA.DnsCommit.C11_commit_sound_general
#print axioms SA.DnsCommit.C11_commit_frag_reports_failure
#print axioms SA.DnsCommit.C11_commit_agree_general
#print axioms SA.DnsCommit.C11_commit_codec_query_lost_sound
#print axioms SA.DnsCommit.C11_witness_commit_error_swallowed
#print axioms SA.DnsCommit.C11_witness_commit_frag_server_error
#print axioms SA.DnsCommit.C11_witness_commit_codec_answer_lost
