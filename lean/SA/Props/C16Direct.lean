/-
C16, direct route taken = the upstreams are not touched, however the direct connection ends.
Model: SA.Model.DirectEnd (HandleConnection over the regenerated return values of ConnectDirectly and
the policy model).  Correspondence: component `poldirect`.
-/
import SA.Proofs.DirectEnd

namespace SA.DirectEnd
open SA.Policy

/-- The regenerated fact: `ConnectDirectly` returns false iff the dial failed; with a successful dial the
    piping runs and the answer is true however the piping ends. (Breaks when the source changes.) -/
theorem C16_direct_returns :
    Gen.c16DirectReturns = [("dial-failed", "false", false), ("pipe-clean", "true", true), ("pipe-error", "true", true)]
    ∧ DFacts.current = DFacts.intended := ⟨rfl, gen_directReturns⟩

/-- General form: whenever `ConnectDirectly` answers true on the path taken, nothing is touched. -/
theorem C16_direct_taken_untouched (D : DFacts) (F : Facts) (c : Cfg) (sh : Sh) (dialOk : Bool) (e : End)
    (h : connectDirectly D (pathOf dialOk e) = true) :
    (handleConn D F c sh dialOk e).sh = sh ∧ (handleConn D F c sh dialOk e).logical = 0 := by
  rw [handleConn_taken h]
  exact ⟨rfl, rfl⟩

/-- For the code as it is, in EVERY state of the shared upstreams (session intact, lost, none, even a
    blocked mutex), for every upstream list and every policy facts: a local connection whose forward
    address accepts the dial is served by it and — however the direct connection ends: closed or reset,
    by either side — the upstreams are not touched: the shared state is unchanged (no dial, no physical
    connection opened or closed) and no logical connection is opened. -/
theorem C16_direct_end_leaves_upstreams (F : Facts) (c : Cfg) (sh : Sh) (e : End) :
    let r := handleConn DFacts.current F c sh true e
    r.who = .direct ∧ r.sh = sh ∧ r.logical = 0 ∧ r.touched sh = false := by
  rw [gen_directReturns, handleConn_taken (connectDirectly_intended true e)]
  exact ⟨rfl, rfl, rfl, by simp [Res.touched]⟩

/-- …and only an unreachable forward address sends the connection to the upstreams: then HandleConnection
    is exactly the policy's `connect` without forward address (ordered fail-over, reuse, reconnect:
    C16_ordered_failover, C16_reuse, C16_reconnect_after_loss apply). -/
theorem C16_direct_unreachable_falls_back (F : Facts) (c : Cfg) (sh : Sh) (e : End) :
    let r := handleConn DFacts.current F c sh false e
    let k := connect F { c with fwd := .absent } sh true
    r.sh = k.1 ∧ r.who = k.2.1 ∧ r.carrier = k.2.2 := by
  rw [gen_directReturns, handleConn_fallback (connectDirectly_intended false e)]
  exact ⟨rfl, rfl, rfl⟩

/-- The whole `poldirect` history: with the current code no direct event of any history over any list
    changes the shared state. -/
theorem C16_direct_events_inert (F : Facts) (c : Cfg) (m : Sim) (ch : Char) (e : End) (he : endOf ch = some e) :
    (simEvent DFacts.current F c m ch).map (fun m' => m'.sh) = some m.sh := by
  simp only [simEvent, he, gen_directReturns, handleConn_taken (connectDirectly_intended true e)]
  rfl

/-- Witness of what the trial change kept as seeded9/C16 does (error handling of dial and piping "unified" into one
    `if err != nil { …; return false }`): one usable upstream, nothing stored; the forward target serves
    the local connection and then resets it — the finished connection is taken to the upstreams:
    upstream 0 is dialled, a physical connection is held and a logical connection is opened.  A clean
    end and a refused dial behave as before, which is why nothing else notices. -/
theorem C16_witness_unified_error_branch :
    let c := Cfg.simple false .ok [.okPlain]
    let r := handleConn DFacts.unified Facts.current c Sh.init true .targetReset
    r.who = .direct ∧ r.sh.dials = [0] ∧ held r.sh = 1 ∧ r.logical = 1 ∧ r.touched Sh.init = true
    ∧ (handleConn DFacts.unified Facts.current c Sh.init true .appReset).logical = 1
    ∧ (handleConn DFacts.unified Facts.current c Sh.init true .targetClose).sh = Sh.init
    ∧ (handleConn DFacts.unified Facts.current c Sh.init true .appClose).sh = Sh.init
    ∧ (handleConn DFacts.intended Facts.current c Sh.init true .targetReset).sh = Sh.init := by decide

/-- With an intact session the unified branch dials nothing — only the logical connection shows. -/
theorem C16_witness_unified_on_intact_session :
    let c := Cfg.simple false .ok [.okPlain]
    let s1 := (connect Facts.current { c with fwd := .absent } Sh.init true).1
    let r := handleConn DFacts.unified Facts.current c s1 true .targetReset
    s1.stored = some 0 ∧ r.sh = s1 ∧ r.logical = 1 ∧ r.touched s1 = true
    ∧ (handleConn DFacts.intended Facts.current c s1 true .targetReset).logical = 0 := by decide

-- non-vacuity: the hypothesis of C16_direct_taken_untouched is met by the current code on every ending,
-- and the fall-back really dials
example : ∀ e : End, connectDirectly DFacts.current (pathOf true e) = true :=
  fun e => gen_directReturns ▸ connectDirectly_intended true e
example : (handleConn DFacts.current Facts.current (Cfg.simple false .ok [.refused, .okPlain]) Sh.init false .appClose).sh.dials = [0, 1] := by decide
example : endOf 'r' = some .targetReset := rfl

end SA.DirectEnd

#print axioms SA.DirectEnd.C16_direct_returns
#print axioms SA.DirectEnd.C16_direct_end_leaves_upstreams
#print axioms SA.DirectEnd.C16_direct_taken_untouched
#print axioms SA.DirectEnd.C16_direct_unreachable_falls_back
#print axioms SA.DirectEnd.C16_direct_events_inert
#print axioms SA.DirectEnd.C16_witness_unified_error_branch
#print axioms SA.DirectEnd.C16_witness_unified_on_intact_session
