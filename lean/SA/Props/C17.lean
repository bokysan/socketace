/-
  C17 — Orderly close delivers all data, then end-of-stream (partial: the transports' own "close after write delivers
  the data, then EOF" is their contract, sampled e2e).  Three models: PipeData (first, below), the built-in SOCKS
  channel, whose proxy goroutines must pass the end-of-stream on (SA.Model.Socks), and the server's channel selection,
  whose buffered reader must not keep what it read ahead (SA.Model.ReadAhead).

  PipeData, setting: one side (modelled as `down`; the model is symmetric in the two ends) writes the bytes
  `B` in any chunking and then closes; the other side stays silent and open.  Claim: in every
  interleaving of the two copiers, main, the caller and the moment the close becomes visible, once
  the pipe has ended the other side has been handed exactly `B` and has then been closed — the close
  issued by PipeData is ordered after the last write of the data, also when it races with it.
-/
import SA.Proofs.Pipe
import SA.Proofs.Socks
import SA.Proofs.ReadAhead
import SA.Gen.C17ReadAhead
import SA.Gen.PkgVars
namespace SA.Pipe

/-- **data_then_eof / close_after_copy**: one side writes `B` (any chunking) and closes, the other
    stays silent and open.  For every schedule, whenever PipeData has returned, the other side has
    been handed exactly `B` and has been closed afterwards; the copier of that direction has exited. -/
theorem C17_close_delivers_all (c : Cfg) (hc : c.ArmsOk) (dIn : List (List Nat)) (acts : List Act)
    (hn : ∀ a ∈ acts, UpSilent a) :
    let s := run c (init dIn []) acts
    s.mainDone = true → s.uOut = dIn.flatten ∧ s.uClosed = true ∧ s.cd = .done := by
  intro s hm
  exact (run_dinv hc (init_inv dIn []) (init_dinv dIn) acts hn).post hm

/-- before the pipe ends nothing is invented or reordered: what the other side has been handed plus
    what is still to be copied is always `B` -/
theorem C17_prefix_until_close (c : Cfg) (hc : c.ArmsOk) (dIn : List (List Nat)) (acts : List Act)
    (hn : ∀ a ∈ acts, UpSilent a) :
    let s := run c (init dIn []) acts
    s.mainDone = false →
      (s.cd = .copying → s.uOut ++ s.dIn.flatten = dIn.flatten) ∧
      (∀ ch, s.cd = .writing ch → s.uOut ++ ch ++ s.dIn.flatten = dIn.flatten) := by
  intro s hm
  have h : s.uOut ++ toCopy s = dIn.flatten :=
    ((run_dinv hc (init_inv dIn []) (init_dinv dIn) acts hn).pre hm).data
  exact ⟨fun hk => by simpa [toCopy, hk] using h, fun ch hk => by simpa [toCopy, hk] using h⟩

/-- **progress to the end**: with the current configuration the close does happen — in a quiescent state
    after the peer's close has become visible and all data has been read, PipeData has returned. -/
theorem C17_close_happens (c : Cfg) (hc : c.ArmsOk) (hcap : 1 ≤ c.cap) (dIn : List (List Nat)) (acts : List Act)
    (hn : ∀ a ∈ acts, UpSilent a) :
    let s := run c (init dIn []) acts
    quiescent c s = true → s.dFin = true → s.uStall = false → s.mainDone = true := by
  intro s hq hf hus
  have hinv : Inv s := run_inv hc (init_inv dIn []) acts
  clear_value s
  rw [quiescent_iff] at hq
  cases hm : s.mainDone with
  | true => rfl
  | false =>
    -- copier D is not waiting (end-of-stream is visible, the peer reads), so it has exited and its result is in the
    -- channel: main's receive is enabled
    have hd := (blockedD hcap hinv hq.stepD hq.sendD).exited_of (.inr hf) (.inl hus)
    have hr := hq.recvD
    simp [step, hm, hinv.d.waiting hm hd] at hr

example : let c := genCfg .both
    let s := run c (init [[1, 2], [3]] []) [.stepD, .stepD, .finDown, .stepD, .stepD, .stepD, .sendD, .recvD, .stepU, .sendU, .callerClose]
    s.mainDone = true ∧ s.uOut = [1, 2, 3] ∧ s.uClosed = true := by decide

end SA.Pipe

#print axioms SA.Pipe.C17_close_delivers_all
#print axioms SA.Pipe.C17_prefix_until_close
#print axioms SA.Pipe.C17_close_happens

/-! ### the built-in SOCKS channel (SA.Model.Socks) -/
namespace SA.Socks

/-- **socks_target_close_reaches_app**: the connection handed to the SOCKS server can be half-closed (regenerated fact
    below).  Then, whatever number of bytes the target writes before it closes and in whatever order the target, the
    two proxy goroutines, PipeData and ServeConn take their steps, once nothing more can happen the channel's side has
    received every byte, has seen end-of-stream, and the SOCKS server has returned (its goroutine and the target
    connection are released). -/
theorem C17_socks_target_close_reaches_app (n : Nat) (acts : List SAct) (ha : ∀ a ∈ acts, a ≠ .appClose) :
    let s := srun true (sinit n) acts
    quiescent true s = true → s.served = true ∧ s.eofDown = true ∧ s.delivered = n ∧ s.dropped = 0 := by
  intro s hq
  have inv : TInv n s := srun_tinv (init_tinv n) acts ha
  have q := quiescent_guards hq
  -- the target is through: otherwise it could still write or close
  have htf : s.tgtFin = true := by
    cases hf : s.tgtFin with
    | true => rfl
    | false =>
      have hdd : s.downDone = false := by
        cases hd : s.downDone with
        | false => rfl
        | true => exact absurd (inv.down hd).1 (by simp [hf])
      exact absurd ⟨(Nat.eq_zero_or_pos _).resolve_right fun h => q.write ⟨h, hf, hdd⟩, hf⟩ q.tgtClose
  have hz : s.toDeliver = 0 := inv.fin htf
  -- … so the proxy has reported, the channel's side has seen end-of-stream and has been closed, the other proxy has
  -- reported, and ServeConn has returned
  have hdd : s.downDone = true := by simpa [htf, hz] using q.downEnd
  have heof : s.eofDown = true := (inv.down hdd).2
  have hcc : s.chanClosed = true := by simpa [heof] using q.pipeClose
  have hud : s.upDone = true := by simpa [hcc] using q.upEnd
  have hsv : s.served = true := by simpa [hdd, hud] using q.ret
  refine ⟨hsv, heof, ?_, inv.nodrop⟩
  have := inv.sum; omega

/-- the SOCKS channel of the code as it is hands the library a connection with a CloseWrite method -/
theorem C17_socks_conn_half_closes : Gen.socksConnHasCloseWrite = true := rfl

/-- **socks_app_close_releases**: when the application leaves first, then in every state in which nothing more can
    happen the SOCKS server has returned — with or without half-close. -/
theorem C17_socks_app_close_releases (cw : Bool) (s : SSt) (hq : quiescent cw s = true) (hc : s.chanClosed = true) :
    s.served = true := by
  have q := quiescent_guards hq
  have hdd : s.downDone = true := by simpa [hc] using q.downEnd
  have hud : s.upDone = true := by simpa [hc] using q.upEnd
  simpa [hdd, hud] using q.ret

/-- **witness_socks_no_half_close**: without a CloseWrite method on that connection (the code before the repair), after
    the target has written its n bytes and closed nothing more can happen, and the channel's side has not seen
    end-of-stream and the SOCKS server has not returned: the application waits for ever.  For every n. -/
theorem C17_witness_socks_no_half_close (n : Nat) :
    let s := srun false (sinit n) (List.replicate n .write ++ [.tgtClose, .downEnd])
    quiescent false s = true ∧ s.delivered = n ∧ s.eofDown = false ∧ s.served = false := by
  intro s
  have h : srun false (sinit n) (List.replicate n .write) = _ := writes_run false (sinit n) rfl rfl rfl
  have hs : s = { sinit n with toDeliver := 0, delivered := n, tgtFin := true, downDone := true } := by
    show srun false (sinit n) (List.replicate n .write ++ [.tgtClose, .downEnd]) = _
    rw [(srun_skipRun false).append, h]
    simp [sinit, srun, sstep]
  rw [hs]
  simp [sinit, sstep, quiescent]

example : quiescent true (settle true 32 (sinit 5)) = true ∧ (settle true 32 (sinit 5)).served = true := by decide

end SA.Socks

#print axioms SA.Socks.C17_socks_target_close_reaches_app
#print axioms SA.Socks.C17_socks_conn_half_closes
#print axioms SA.Socks.C17_socks_app_close_releases
#print axioms SA.Socks.C17_witness_socks_no_half_close

namespace SA.Socks
/-- both ends run the multiplexer with the library's default timing: the only field the code assigns is the frame size
    (regenerated).  The keep-alive that ends a session is therefore smux's 30 s without any frame header read — a full
    32 KiB frame crosses the slowest carrier in less (the `+slow` runs: 4 KiB/s). -/
theorem C17_mux_timing_is_default :
    Gen.smuxConfigAssignedServer = ["MaxFrameSize"] ∧ Gen.smuxConfigAssignedClient = ["MaxFrameSize"] := ⟨rfl, rfl⟩
end SA.Socks

namespace SA.PkgState
/-- **no_hidden_process_state**: the models of this property are functions of their arguments and of the objects they are
    handed; the packages they model keep no package-level variables besides these (regenerated inventory: error
    sentinels, tables, compiled patterns, the two session time-outs).  A new package-level variable — a counter, a cache, a
    scratch buffer, a shared map, a registry — would make later calls depend on earlier ones, or concurrent calls on each
    other, outside anything a per-call comparison of model and code can see. -/
theorem C17_no_hidden_process_state :
    Gen.pkgVarNames_streams = ["Localhost"] ∧
    Gen.pkgVarNames_server = ["ChannelRegex"] := ⟨rfl, rfl⟩
end SA.PkgState

#print axioms SA.PkgState.C17_no_hidden_process_state
#print axioms SA.Socks.C17_mux_timing_is_default

namespace SA.ReadAhead
/-- **selection_loses_nothing**: the server selects the channel through a buffered reader that takes whole chunks from
    the logical stream.  For EVERY way the stream is cut into chunks (in particular: selection tokens and payload in one
    chunk — a peer that does not wait for the server's confirmation) and every token length k the stream holds, the k
    bytes the selection consumed followed by what the handler then reads through the wrapper are exactly the stream:
    the target is handed every payload byte, in order, whatever the wrapper read ahead. -/
theorem C17_selection_loses_nothing (k : Nat) (cs : List (List Nat)) (h : k ≤ cs.flatten.length) :
    ∃ tokens, tokens.length = k ∧ tokens ++ viaWrapper k cs = cs.flatten :=
  ⟨(take k (BR.ofChunks cs)).1, take_length k (BR.ofChunks cs) h, take_viaWrapper k cs⟩

/-- the number of bytes the target is handed does not depend on the chunking -/
theorem C17_target_count_chunking_independent (k : Nat) (cs : List (List Nat)) (h : k ≤ cs.flatten.length) :
    (viaWrapper k cs).length = cs.flatten.length - k := by
  obtain ⟨t, ht, he⟩ := C17_selection_loses_nothing k cs h
  have := congrArg List.length he
  simp only [List.length_append] at this
  omega

/-- witness: handing the channel handler the stream BELOW the wrapper loses what the wrapper read ahead (three token
    bytes and two payload bytes in one chunk: the target gets nothing), while through the wrapper it gets both -/
theorem C17_witness_bare_stream_loses_read_ahead :
    viaStream 3 [[1, 2, 3, 4, 5]] = [] ∧ viaWrapper 3 [[1, 2, 3, 4, 5]] = [4, 5] := by
  simp [viaStream, viaWrapper, take, BR.ofChunks, BR.remaining]

/-- the code hands the handler the wrapper: the muxer's only `Handle` call in multiplexToUpstream gets
    `newClientFirstConn(stream)`, selection is never separated from the handler call (`Negotiate`), and the wrapper's
    `Read` reads from its buffered reader, which is built over the stream (regenerated) -/
theorem C17_handler_reads_through_wrapper :
    Gen.c17MuxHandleArgs = ["newClientFirstConn(multiplexChannel)"] ∧ Gen.c17MuxNegotiateCalls = 0 ∧
    Gen.c17WrapperReadsFrom = "c.reader.Read(p)" ∧
    Gen.c17WrapperReader = "bufio.NewReaderSize(conn,buffers.BufferSize)" := ⟨rfl, rfl, rfl, rfl⟩
end SA.ReadAhead

#print axioms SA.ReadAhead.C17_selection_loses_nothing
#print axioms SA.ReadAhead.C17_target_count_chunking_independent
#print axioms SA.ReadAhead.C17_witness_bare_stream_loses_read_ahead
#print axioms SA.ReadAhead.C17_handler_reads_through_wrapper
