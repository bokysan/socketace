/-
  C05 — peer authentication under FILE FAULTS: a configured certificate / key / CA file that cannot be read at
  the moment a TLS configuration is built ends the attempt; it never turns into "nothing configured".

  Model: SA.Model.TrustSource (the getters of cert.Config parameterised by what becomes of the ReadFile error,
  regenerated as SA.Gen.c05FileReadFates / c05FailurePoints).  crypto/tls / crypto/x509 stay the universally
  quantified contract record `X : X509` of SA.Model.TlsConfig.
-/
import SA.Proofs.TrustSource
namespace SA.TrustSource
open SA.TlsConfig

/-- every getter of cert.Config hands the error of its ReadFile to a `return` (`SA.Gen.c05FileReadFates`) -/
theorem gen_readFacts : genReadFacts = ⟨true, true, true⟩ := by decide +kernel

/-- the shape the theorems rest on: in cert.go every ReadFile reachable from the three getters hands its error to
    a `return`, no fallible result is thrown away, and AppendCertsFromPEM's verdict guards a return of an error that
    reaches addCaCertificates' caller (SA.Gen.c05CaPemVerdictChecked: established for the call wherever it sits -
    in addCaCertificates or in a function of cert.go it calls - not by the name of a variable) -/
theorem C05_read_errors_propagate :
    genReadFacts = ⟨true, true, true⟩ ∧ SA.Gen.c05BlankResults = [] ∧
    SA.Gen.c05FailurePoints.all (fun p => p.1 == "findFile" || p.2.2 != "dropped") = true ∧
    SA.Gen.c05CaPemVerdictChecked = true :=
  ⟨gen_readFacts, rfl, by decide +kernel, rfl⟩

/-- so on the code as it is the options reach the getters as they are -/
theorem gen_degrade (o : Opts) : degrade genReadFacts o = o := by
  rw [gen_readFacts]
  exact degrade_all o

/-- C05, file faults, configuration level: on the code as it is, whenever a configured certificate, key or CA
    file cannot be read, NO tls.Config is produced - neither plain, client nor server - for every option set -/
theorem C05_unreadable_file_no_config (o : Opts) (h : unreadable o = true) (g : Bool) (c : TlsCfg) :
    configR genReadFacts o ≠ .ok c ∧ clientGetTlsConfig (degrade genReadFacts o) ≠ .ok c ∧
      serverGetTlsConfig g (degrade genReadFacts o) ≠ .ok c := by
  unfold configR
  rw [gen_degrade]
  exact ⟨config_unreadable h c, client_unreadable h c, server_unreadable h g c⟩

/-- C05, file faults, session level: whichever end has an unreadable configured file at the moment of the
    connection, no session is established - for every x509 oracle, every set of site facts, every upstream kind,
    every host, every peer certificate.  In particular a verifying client whose CA file is unreadable completes no
    session with a server certified by the system trust store, and a server requiring client certificates whose
    CA file is unreadable admits nobody. -/
theorem C05_unreadable_file_no_session (X : X509) (F : Facts) (k : Kind) (hostport r : Name) (co so : Opts)
    (h : unreadable co = true ∨ unreadable so = true) :
    establishedR genReadFacts X F k hostport r co so = false := by
  unfold establishedR
  rw [gen_degrade, gen_degrade]
  cases he : established X F k hostport r co so with
  | false => rfl
  | true =>
    -- a session needs a configuration on both ends
    obtain ⟨ccfg, scfg, peer, hc, hs, -⟩ := established_iff.mp he
    rcases h with h | h
    · obtain ⟨c2, h2, -⟩ := clientCfgFor_ok_iff.mp hc
      exact absurd h2 (client_unreadable h c2)
    · exact absurd hs (server_unreadable h _ scfg)

/-- non-vacuity: the same ends with the file readable do establish a session -/
example : handleCafault ["tcp+tls", "client", "ca", "ok", "good"] = "established" := by decide +kernel
example : handleCafault ["tcp", "server", "ca", "ok", "good"] = "established" := by decide +kernel
example : unreadable { ca := ⟨some none, none⟩ } = true := by decide

/-- witness (the behaviour of a getter that swallows the read error of the CA file): the verifying client, CA file
    unreadable, completes a session with a server certified by the SYSTEM store's CA S, which it never configured;
    and the server requiring client certificates admits a client certified by S -/
theorem C05_witness_swallowed_ca_read_error :
    handleCafaultR ⟨true, true, false⟩ ["tcp+tls", "client", "ca", "missing", "sys"] = "established" ∧
    handleCafaultR ⟨true, true, false⟩ ["tcp", "client", "ca", "dangling", "sys"] = "established" ∧
    handleCafaultR ⟨true, true, false⟩ ["tcp", "server", "ca", "dir", "sys"] = "established" ∧
    handleCafaultR ⟨true, true, true⟩ ["tcp+tls", "client", "ca", "missing", "sys"] = "refused" ∧
    handleCafaultR ⟨true, true, true⟩ ["tcp", "server", "ca", "dir", "sys"] = "refused" := by
  decide +kernel

end SA.TrustSource

#print axioms SA.TrustSource.C05_read_errors_propagate
#print axioms SA.TrustSource.C05_unreadable_file_no_config
#print axioms SA.TrustSource.C05_unreadable_file_no_session
#print axioms SA.TrustSource.C05_witness_swallowed_ca_read_error
