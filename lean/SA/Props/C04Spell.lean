/-
  C04, per upstream scheme spelling (model SA.Model.SecSpell, harness go/harness/c04_spell.go): the scheme the user
  wrote, the transport really dialled and what the handshake is told never disagree about encryption.
-/
import SA.Proofs.SecSpell
import SA.Proofs.Security
namespace SA.Security
open SA.Handshake

/-- Bool-valued statement of honesty for one spelling: it is in the switch, and when its Connect does not fail outright
    the `secure` argument (both values of mustSecure) is true only if the transport dialled is TLS, a spelling that says
    TLS dials TLS, and a datagram carrier (udp, dns) never counts as a TLS transport -/
def spellHonest (k : Schemes.Str) : Bool :=
  match Schemes.lookup (Schemes.tableOf .upstream) k with
  | none => false
  | some ctor =>
    let r := Schemes.runOf .upstream ctor k
    r.failed ||
      ((!spellArg ctor r false || r.tls) && (!spellArg ctor r true || r.tls) && (!spellTls k || r.tls) &&
       (!(ctor == "Packet" || ctor == "Dns") || !r.tls))

/-- **for every spelling the upstream parser accepts, the handshake is told "secure" only when the transport really
    dialled is TLS, and a spelling that says TLS (`+tls`, https, wss) dials TLS** (regenerated: the parser's switch,
    the `+tls` chains of every Connect as C18 interprets them, and the class of the `secure` argument). -/
theorem C04_spelling_flag_honest :
    ∀ k ∈ Schemes.keysOf (Schemes.tableOf .upstream), spellHonest k.toList = true := by
  decide +kernel

/-- **the handshake part of a cell is safe whenever the flag is honest**: for every combination (datagram carrier,
    non-verifying kind, dialled TLS, flag, server TLS, server certificate, require-security, certificate verdict) with
    `flag → dialled TLS`, `says TLS → dialled TLS` and `datagram → not TLS`, the five clauses hold (complete finite
    table over `honestPair_eq`, kernel-evaluated). -/
theorem C04_cell_safe_of_honest_flag :
    ∀ datagram noVerify dialTls s0 saysTls stls scert must acc : Bool,
      (!s0 || dialTls) = true → (!saysTls || dialTls) = true → (!datagram || !dialTls) = true →
      cellSafe2 saysTls stls scert must (cellCore2 datagram noVerify dialTls s0 stls scert must acc) = true := by
  unfold cellCore2
  rw [honestPair_fun]
  decide +kernel

/-- the handshake cell of a spelling whose Connect does not fail outright is safe: `C04_spelling_flag_honest` gives the
    three premises of `C04_cell_safe_of_honest_flag` -/
theorem spelling_core_safe {k : String} (hk : k ∈ Schemes.keysOf (Schemes.tableOf .upstream)) {ctor : String}
    (heq : Schemes.lookup (Schemes.tableOf .upstream) k.toList = some ctor)
    (hf : (Schemes.runOf .upstream ctor k.toList).failed = false) (stls scert must acc : Bool) :
    cellSafe2 (spellTls k.toList) stls scert must
      (cellCore2 (ctor == "Packet" || ctor == "Dns") (ctor == "InputOutput") (Schemes.runOf .upstream ctor k.toList).tls
        (spellArg ctor (Schemes.runOf .upstream ctor k.toList) must) stls scert must acc) = true := by
  have h := C04_spelling_flag_honest k hk
  unfold spellHonest at h
  rw [heq] at h
  simp only [hf, Bool.false_or, Bool.and_eq_true] at h
  obtain ⟨⟨⟨h0, h1⟩, h2⟩, h3⟩ := h
  refine C04_cell_safe_of_honest_flag _ _ _ _ _ _ _ _ _ ?_ h2 h3
  -- the flag, for the value of `must` at hand
  cases must
  · exact h0
  · exact h1

/-- **the end-to-end grid over every spelling** (model of the second `seckinds` op form): for every spelling of the
    regenerated upstream switch, server plain / TLS, with / without certificate, require-security, every client
    certificate configuration: (1) require-security => secure, TLS-protected (StartTLS or a TLS record first on the
    wire), echo, payload not in clear; (2) StartTLS offered on an unencrypted carrier => tls + secure; (3) secure =>
    not in clear; (4) secure "underlying" => the first byte on the wire is a TLS record; (5) the spelling says TLS =>
    the first byte on the wire is a TLS record. -/
theorem C04_spelling_grid_never_plaintext :
    ∀ k ∈ Schemes.keysOf (Schemes.tableOf .upstream), ∀ stls scert must insecure ca : Bool,
      cellSafe2 (spellTls k.toList) stls scert must (cellSpell k.toList stls scert must insecure ca) = true := by
  intro k hk stls scert must insecure ca
  unfold cellSpell
  cases heq : Schemes.lookup (Schemes.tableOf .upstream) k.toList with
  | none => unfold cellSpellAcc; rw [heq]; rfl       -- `.badscheme` (not the case for a key of the table): no session
  | some ctor =>
    -- no session (no server, refused), or the handshake cell
    rcases cellSpellAcc_cases heq stls scert must (insecure || (ca && hostOnCert2 ctor k.toList)) with e | e | ⟨hf, e⟩ <;>
      rw [e]
    · rfl
    · rfl
    · exact spelling_core_safe hk heq hf stls scert must _

/-- spellings: https against a TLS server is "underlying" with a TLS record first on the wire; ws against a plain server
    with a certificate negotiates StartTLS; wss against a plain server has no session; `ws+tls` is not a spelling -/
example : cellSpell "https".toList true true true false true = .est .underlying true true false (some true) := by
  unfold cellSpell cellSpellAcc cellCore2; rw [honestPair_fun]; decide +kernel
example : cellSpell "ws".toList false true true false true = .est .tls true true false (some false) := by
  unfold cellSpell cellSpellAcc cellCore2; rw [honestPair_fun]; decide +kernel
example : cellSpell "wss".toList false true true true false = .refused := by decide +kernel
example : cellSpell "ws+tls".toList false true true true false = .badscheme := by decide +kernel
example : cellSafe2 true false true true (.est .underlying true true true (some false)) = false := by decide

end SA.Security

#print axioms SA.Security.C04_spelling_flag_honest
#print axioms SA.Security.C04_cell_safe_of_honest_flag
#print axioms SA.Security.C04_spelling_grid_never_plaintext
