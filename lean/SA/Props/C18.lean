/-
  C18 — Address schemes select the documented transport, or are rejected.

  The model (SA.Model.Schemes) interprets the scheme switches, regex sources, group indices, nil guards
  and "+tls" if-chains that go/extract regenerates from the Go source (SA/Gen/C18.lean).  Every theorem
  below is therefore re-proved against what the source says now.  Evaluation meets the regenerated data in three
  places, and what is said of all strings is derived from these: `gen_tables_lexical` (every scheme of every switch,
  through its Startup/Connect chain, against the lexical rule — a new or changed scheme shows here),
  `gen_documented_lexical` (the README list against the same rule) and the four statements on the parsers (`dispatch_eq`
  … `listenerFlag_cases`: guards, indices, default clauses).  The side conditions `C18_gen_…` and the DNS listener's run
  strings (`C18_dns_server_listens_documented`) are read off the data directly.  A scheme with a new base word also needs
  its line in `lexCarrier`, a documented one its row in `documented`; a new flag parser its own `…_eq` statement that
  reduces it to `parseAndDispatch`.

  Spec (hand-written from README.md): `documented`.
-/
import SA.Model.Schemes
import SA.Gen.PkgVars
namespace SA.Props.C18
open SA.Schemes SA.Gen

/-! ## Spec -/

/-- what a scheme resolves to: carrier family, network of the listener/dialer ("" where there is none),
    whether the wire is encrypted, and the secure flag handed to the socketace handshake -/
structure Transport where
  carrier : String
  network : String
  tls : Bool
  secure : Bool
  deriving DecidableEq, Repr

/-- README.md, sections "Channels", "Servers", "Client": (position, scheme, carrier, network, TLS?) -/
def documented : List (Pos × String × String × String × Bool) :=
  [ (.server, "http", "http", "tcp", false), (.server, "https", "http", "tcp", true),
    (.server, "tcp", "sock", "tcp", false), (.server, "tcp+tls", "sock", "tcp", true),
    (.server, "stdin", "stdio", "", false), (.server, "stdin+tls", "stdio", "", true),
    (.server, "unix", "sock", "unix", false), (.server, "unix+tls", "sock", "unix", true),
    (.server, "unixpacket", "sock", "unixpacket", false),
    (.server, "udp", "packet", "udp", false), (.server, "unixgram", "packet", "unixgram", false),
    (.server, "dns+udp", "dns", "udp", false), (.server, "dns+tcp", "dns", "tcp", false),
    (.channel, "tcp", "dial", "tcp", false), (.channel, "unix", "dial", "unix", false),
    (.channel, "unixpacket", "dial", "unixpacket", false),
    (.upstream, "tcp", "sock", "tcp", false), (.upstream, "tcp+tls", "sock", "tcp", true),
    (.upstream, "stdin", "stdio", "", false), (.upstream, "stdin+tls", "stdio", "", true),
    (.upstream, "unix", "sock", "unix", false), (.upstream, "unix+tls", "sock", "unix", true),
    (.upstream, "http", "ws", "tcp", false), (.upstream, "https", "ws", "tcp", true),
    (.upstream, "unixgram", "packet", "unixgram", false), (.upstream, "udp", "packet", "udp", false),
    (.upstream, "dns", "dns", "udp", false),
    (.listener, "tcp", "listen", "tcp", false), (.listener, "unix", "listen", "unix", false),
    (.listener, "stdin", "stdio", "", false) ]

/-- the scheme of an address as a reader of the documentation sees it: the text before the first ':'
    (surrounding white space ignored, case-insensitive) -/
def lexScheme (a : Str) : Option Str :=
  let t := trim a
  if t.contains ':' then some (lower (t.takeWhile (· != ':'))) else none

def base (s : Str) : Str := s.takeWhile (· != '+')

/-- the scheme *says* TLS -/
def lexTls (s : Str) : Bool :=
  hasSuffix s "+tls".toList || base s == "https".toList || base s == "wss".toList

/-- the carrier (and network) the scheme's base word names, per position -/
def lexCarrier (p : Pos) (s : Str) : Option (String × String) :=
  let b := String.ofList (base s)
  if b == "http" || b == "https" || b == "ws" || b == "wss" then
    (match p with | .server => some ("http", "tcp") | .upstream => some ("ws", "tcp") | _ => none)
  else if b == "tcp" || b == "unix" || b == "unixpacket" then
    (match p with
     | .server => some ("sock", b) | .upstream => some ("sock", b)
     | .listener => some ("listen", b) | .channel => some ("dial", b))
  else if b == "stdin" || b == "stdio" then some ("stdio", "")
  else if b == "udp" || b == "udp4" || b == "udp6" then some ("packet", "udp")
  else if b == "unixgram" then some ("packet", "unixgram")
  else if b == "dns" then some ("dns", if containsSub s "+tcp".toList then "tcp" else "udp")
  else if b == "socks" then some ("socks", "")
  else none

/-- a transport is lexically consistent with a scheme: the carrier the base word names, encrypted exactly
    when the scheme says so, and the handshake told the truth about it -/
def consistent (p : Pos) (s : Str) (t : Transport) : Bool :=
  lexCarrier p s == some (t.carrier, t.network) && t.tls == lexTls s && t.secure == t.tls

/-! ## the model's resolution of a scheme / an address -/

/-- scheme → transport, through the position's switch and the constructed object's Startup/Connect -/
def transportOf (p : Pos) (s : Str) : Option Transport :=
  match lookup (tableOf p) s with
  | none => none
  | some ctor =>
    let r := runOf p ctor s
    if r.failed then none else some ⟨r.carrier, String.ofList r.network, r.tls, r.secure⟩

/-- address string → transport (`none` = rejected: url error, unknown scheme, or cannot start) -/
def resolve (restOk : Str → Bool) (p : Pos) (a : Str) : Option Transport :=
  match parseAddress restOk a with
  | .error _ => none
  | .ok s => transportOf p s

/-- the model's matchers for these three patterns (`containsSub … "+tls"`, `plusEnd`, `channelRegexMatch`) are written by
    hand from the sources named here -/
theorem C18_gen_regex_sources :
    hasTlsSrc = "\\+tls" ∧ plusEndSrc = "\\+.+$" ∧
    channelRegexSrc = "^([a-z0-9_^/]*)->((tcp|udp|unix|unixgram|unixpacket):(.*))$" := ⟨rfl, rfl, rfl⟩

theorem C18_gen_defaults_are_errors :
    serverSchemesDefaultIsError = true ∧ channelSchemesDefaultIsError = true ∧
    upstreamSchemesDefaultIsError = true ∧ listenerSchemesDefaultIsError = true ∧
    dnsStartupNetsDefaultIsError = true := ⟨rfl, rfl, rfl, rfl, rfl⟩

/-! ## the lexical rule, from one sweep of the scheme tables -/

/-- the one evaluation over the four scheme tables: every scheme a switch accepts, through its `Startup`/`Connect` chain,
    against the lexical rule (one statement over the list of positions: a `decide` per position costs half as much again;
    `+kernel`: the elaborator's own evaluation would only repeat the kernel's) -/
theorem gen_tables_lexical : ∀ p ∈ [Pos.server, .channel, .upstream, .listener],
    ∀ k ∈ keysOf (tableOf p), (transportOf p k.toList).any (consistent p k.toList) = true := by
  decide +kernel

theorem key_resolves {p : Pos} {k : String} (hk : k ∈ keysOf (tableOf p)) :
    ∃ t, transportOf p k.toList = some t ∧ consistent p k.toList t = true :=
  -- `by …`: the list names every position
  (Option.any_eq_true _ _).mp (gen_tables_lexical p (by cases p <;> decide) k hk)

/-- the documentation against its own rule (`transportOf` is not evaluated here) -/
theorem gen_documented_lexical : ∀ d ∈ documented, d.2.1 ∈ keysOf (tableOf d.1) ∧
    consistent d.1 d.2.1.toList ⟨d.2.2.1, d.2.2.2.1, d.2.2.2.2, d.2.2.2.2⟩ = true := by decide +kernel

theorem consistent_unique {p : Pos} {s : Str} {t t' : Transport}
    (h : consistent p s t = true) (h' : consistent p s t' = true) : t = t' := by
  obtain ⟨c, n, tl, se⟩ := t
  obtain ⟨c', n', tl', se'⟩ := t'
  simp only [consistent, Bool.and_eq_true, beq_iff_eq] at h h'
  obtain ⟨⟨e1, rfl⟩, rfl⟩ := h
  obtain ⟨⟨e2, rfl⟩, rfl⟩ := h'
  cases e1.symm.trans e2
  rfl

/-- every documented (position, scheme) yields exactly the documented carrier, network and TLS flag, and
    the socketace handshake is told the same -/
theorem C18_documented_schemes_ok :
    ∀ d ∈ documented, transportOf d.1 d.2.1.toList = some ⟨d.2.2.1, d.2.2.2.1, d.2.2.2.2, d.2.2.2.2⟩ := by
  intro d hd
  obtain ⟨hk, hc⟩ := gen_documented_lexical d hd
  obtain ⟨t, ht, hc'⟩ := key_resolves hk
  rw [ht, consistent_unique hc' hc]

/-- no scheme is accepted by a parser and then refused (or left without a transport) by Startup/Connect:
    rejection of a scheme is always a configuration-time error -/
theorem C18_accepted_schemes_start :
    (∀ k ∈ keysOf (tableOf .server), (transportOf .server k.toList).isSome) ∧
    (∀ k ∈ keysOf (tableOf .channel), (transportOf .channel k.toList).isSome) ∧
    (∀ k ∈ keysOf (tableOf .upstream), (transportOf .upstream k.toList).isSome) ∧
    (∀ k ∈ keysOf (tableOf .listener), (transportOf .listener k.toList).isSome) :=
  have h (p : Pos) (k : String) (hk : k ∈ keysOf (tableOf p)) : (transportOf p k.toList).isSome = true := by
    obtain ⟨t, ht, _⟩ := key_resolves hk
    rw [ht]; rfl
  ⟨h _, h _, h _, h _⟩

/-- **the DNS server listens on the documented network**: for the documented DNS server schemes the run observation the
    model predicts — which the harness compares with what a probe from outside finds listening after `Startup`
    (TCP dial / UDP query against the bound address) — names exactly the documented network: `dns+udp` a UDP
    server, `dns+tcp` a TCP server; and the undocumented relatives follow the lexical rule (`dns` UDP, `dns+tcp+tls`
    TCP with TLS). -/
theorem C18_dns_server_listens_documented :
    (∀ d ∈ documented, d.1 = .server → d.2.2.1 = "dns" →
      runStr .server "NewDnsServer" (runOf .server "NewDnsServer" d.2.1.toList)
        = "dns,dns.ServerDnsListener," ++ d.2.1 ++ ",false," ++ d.2.2.2.1) ∧
    runStr .server "NewDnsServer" (runOf .server "NewDnsServer" "dns".toList) = "dns,dns.ServerDnsListener,dns,false,udp" ∧
    runStr .server "NewDnsServer" (runOf .server "NewDnsServer" "dns+tcp+tls".toList)
      = "dns,dns.ServerDnsListener,dns+tcp,true,tcp-tls" := by decide +kernel

theorem lookup_some_mem {tbl : List (List String × String)} {s : Str} {c : String} (h : lookup tbl s = some c) :
    ∃ k ∈ keysOf tbl, k.toList = s := by
  induction tbl with
  | nil => cases h
  | cons r rest ih =>
    rw [lookup] at h
    split at h
    · rename_i hany
      obtain ⟨k, hk, he⟩ := List.any_eq_true.mp hany
      exact ⟨k, List.mem_append_left _ hk, eq_of_beq he⟩
    · obtain ⟨k, hk, he⟩ := ih h
      exact ⟨k, List.mem_append_right _ hk, he⟩

theorem lexCarrier_nil (p : Pos) : lexCarrier p [] = none := by cases p <;> decide +kernel

/-- **the lexical rule, for every string** (the empty word names no carrier, so it resolves to nothing) -/
theorem transportOf_lexical {p : Pos} {s : Str} {t : Transport} (h : transportOf p s = some t) :
    consistent p s t = true ∧ s ≠ [] := by
  have hc : consistent p s t = true := by
    cases hl : lookup (tableOf p) s with
    | none => simp [transportOf, hl] at h
    | some c =>
      obtain ⟨k, hk, rfl⟩ := lookup_some_mem hl
      obtain ⟨t', ht', hc⟩ := key_resolves hk
      cases h.symm.trans ht'
      exact hc
  refine ⟨hc, ?_⟩
  rintro rfl
  simp [consistent, lexCarrier_nil] at hc

/-! ## from the address to the scheme (all strings) -/

/-- getScheme's scan: a non-empty scheme is the text before the first ':' -/
theorem getSchemeAux_spec {whole acc rem s rest : Str} (h : getSchemeAux whole acc rem = some (s, rest)) (hs : s ≠ []) :
    ∃ pre, s = acc.reverse ++ pre ∧ rem = pre ++ ':' :: rest ∧ ∀ c ∈ pre, c ≠ ':' := by
  -- "no scheme" is the answer `some ([], whole)`
  have noScheme {x : Str} (h : some (([] : Str), x) = some (s, rest)) : False :=
    hs (Prod.mk.inj (Option.some.inj h)).1.symm
  -- going on (after a letter; after a digit, '+', '-', '.' behind the first letter) takes `c`, which is no ':'
  have cont {acc : Str} {c : Char} {cs : Str} (hc : c ≠ ':')
      (ih : ∃ pre, s = (c :: acc).reverse ++ pre ∧ cs = pre ++ ':' :: rest ∧ ∀ x ∈ pre, x ≠ ':') :
      ∃ pre, s = acc.reverse ++ pre ∧ c :: cs = pre ++ ':' :: rest ∧ ∀ x ∈ pre, x ≠ ':' := by
    obtain ⟨pre, e1, e2, e3⟩ := ih
    exact ⟨c :: pre, by simp [e1], by simp [e2], List.forall_mem_cons.mpr ⟨hc, e3⟩⟩
  fun_induction getSchemeAux whole acc rem with
  | case1 | case3 | case7 => exact (noScheme h).elim
  | case2 acc c cs h1 ih => exact cont (by rintro rfl; exact absurd h1 (by decide)) (ih h)
  | case4 acc c cs _ h2 _ ih => exact cont (by rintro rfl; exact absurd h2 (by decide)) (ih h)
  | case5 => cases h
  | case6 acc c cs _ _ h4 =>
    obtain ⟨rfl, rfl⟩ := Prod.mk.inj (Option.some.inj h)
    exact ⟨[], by simp, by simpa using h4, by simp⟩

theorem lexScheme_of_split {a pre w : Str} (ht : trim a = pre ++ ':' :: w) (h : ∀ c ∈ pre, c ≠ ':') :
    lexScheme a = some (lower pre) := by
  have hne : ∀ x ∈ pre, (x != ':') = true := fun x hx => by simpa using h x hx
  simp only [lexScheme, ht]
  rw [if_pos (by simp), List.takeWhile_append_of_pos hne, List.takeWhile_cons_of_neg (by decide), List.append_nil]

theorem parseAddress_ok {restOk : Str → Bool} {a s : Str} (h : parseAddress restOk a = .ok s) :
    ∃ s0 rest, getScheme ((trim a).takeWhile (· != '#')) = some (s0, rest) ∧ s = lower s0 := by
  unfold parseAddress at h
  simp only at h
  split at h
  · cases h  -- a control byte
  · split at h
    · cases h  -- "missing protocol scheme"
    · rename_i s0 rest hg
      split at h <;> cases h  -- the verdict on the rest
      exact ⟨s0, rest, hg, rfl⟩

theorem parseAddress_lexScheme {restOk : Str → Bool} {a s : Str}
    (h : parseAddress restOk a = .ok s) (hs : s ≠ []) : lexScheme a = some s := by
  obtain ⟨s0, rest, hg, rfl⟩ := parseAddress_ok h
  obtain ⟨pre, e1, e2, e3⟩ := getSchemeAux_spec hg (by rintro rfl; exact hs rfl)
  cases (List.nil_append pre ▸ e1 : s0 = pre)
  -- the address is its part up to '#', which the scan has split, and the fragment
  refine lexScheme_of_split (w := rest ++ (trim a).dropWhile (· != '#')) ?_ e3
  rw [← List.cons_append, ← List.append_assoc, ← e2, List.takeWhile_append_dropWhile]

theorem resolve_some {restOk : Str → Bool} {p : Pos} {a : Str} {t : Transport} (h : resolve restOk p a = some t) :
    ∃ s, parseAddress restOk a = .ok s ∧ transportOf p s = some t := by
  unfold resolve at h
  split at h
  · cases h
  · exact ⟨_, ‹_›, h⟩

/-- **for every string** in every position, whatever net/url thinks of the rest: the address is rejected,
    or it has a lexical scheme and the transport is the one that scheme names — the named carrier,
    encrypted exactly when the scheme says TLS, with the handshake told so.  No string silently yields a
    different or an unencrypted transport. -/
theorem C18_undocumented_consistent_or_error (restOk : Str → Bool) (p : Pos) (a : Str) :
    match resolve restOk p a with
    | none => True
    | some t => ∃ s, lexScheme a = some s ∧ consistent p s t = true := by
  cases hres : resolve restOk p a with
  | none => trivial
  | some t =>
    obtain ⟨s, hp, ht⟩ := resolve_some hres
    obtain ⟨hc, hs⟩ := transportOf_lexical ht
    exact ⟨s, parseAddress_lexScheme hp hs, hc⟩

/-! ## the configuration parsers of the code as it is

  The regenerated guards, group indices and default clauses enter through `dispatch_eq`, `unmarshalElem_eq`,
  `channelFlag_eq` and `listenerFlag_cases` and nowhere else: each parser is a refusal or `parseAndDispatch` on some
  address and name. -/

theorem dispatch_eq (p : Pos) (s n : Str) :
    dispatch p s n = match lookup (tableOf p) s with | some c => .ok c s n | none => .error .scheme := by
  unfold dispatch
  cases lookup (tableOf p) s with
  | some c => rfl
  | none => cases p <;> rfl  -- the default clause of each switch is an error (regenerated)

theorem unmarshalElem_eq (restOk : Str → Bool) (p : Pos) (k : Kind) (a n : Str) :
    unmarshalElem restOk p k a n = match k with | .str => parseAndDispatch restOk p a n | _ => .error .shape := by
  -- `unmarshalChannel` guards both the missing and the non-string address (regenerated)
  cases k <;> cases p <;> rfl

theorem channelFlag_eq (restOk : Str → Bool) (v : Str) :
    channelFlag restOk v = match channelRegexMatch v with
      | none => .error .syntax
      | some g => parseAndDispatch restOk .channel
          (g.getD 3 [] ++ "://".toList ++ trimPrefix (g.getD 4 []) "//".toList) (g.getD 1 []) := by
  unfold channelFlag
  cases channelRegexMatch v with
  | none => rfl
  | some g => exact if_pos rfl  -- the flag goes through `unmarshalChannel`, with groups 1, 3, 4 (regenerated)

theorem channelRegexMatch_group1 {v : Str} {g : List Str} (h : channelRegexMatch v = some g) :
    g.getD 1 [] = v.takeWhile nameChar := by
  unfold channelRegexMatch at h
  simp only at h
  split at h
  · cases h  -- no "->" behind the name
  · split at h
    · cases h  -- no ':' behind the protocol
    · split at h <;> cases h  -- the protocol is one of the five, the rest has no newline
      rfl

theorem listenerFlag_cases (restOk : Str → Bool) (v : Str) :
    (∃ e, listenerFlag restOk v = .error e) ∨
    listenerFlag restOk v = parseAndDispatch restOk .listener
      ((splitOnChar '~' (trim v)).getD 1 []) ((splitOnChar '~' (trim v)).getD 0 []) := by
  unfold listenerFlag parseAndDispatch
  simp only [show listenerAddrIdx = 1 from rfl, show listenerNameIdx = 0 from rfl]
  split
  · exact .inl ⟨_, rfl⟩  -- looks like JSON
  · split
    · cases parseAddress restOk ((splitOnChar '~' (trim v)).getD 1 []) with
      | error e => exact .inl ⟨e, rfl⟩
      | ok s =>
        simp only
        split
        · exact .inl ⟨_, rfl⟩  -- the forward address is refused
        · exact .inr rfl
    · exact .inl ⟨_, rfl⟩  -- no '~'

theorem parseAndDispatch_ok {restOk : Str → Bool} {p : Pos} {a n s n' : Str} {c : String}
    (h : parseAndDispatch restOk p a n = .ok c s n') :
    n' = n ∧ parseAddress restOk a = .ok s ∧ lookup (tableOf p) s = some c := by
  unfold parseAndDispatch at h
  split at h
  · cases h
  · rename_i hp
    rw [dispatch_eq] at h
    split at h
    · rename_i hl; cases h; exact ⟨rfl, hp, hl⟩
    · cases h

theorem parseAndDispatch_no_panic {restOk : Str → Bool} {p : Pos} {a n : Str} :
    parseAndDispatch restOk p a n ≠ .panic := by
  unfold parseAndDispatch; split
  · nofun
  · rw [dispatch_eq]; split <;> nofun

/-- JSON, the server / upstream / listen command line flags and the YAML file reach the same function with the same
    string: the outcome does not depend on the input form (channel flag syntax: next theorem) -/
theorem C18_forms_agree (restOk : Str → Bool) (p : Pos) (k : Kind) (v : Str) (f1 f2 : Form)
    (h : p ≠ .channel ∨ (f1 ≠ .flag ∧ f2 ≠ .flag)) :
    parseOp restOk ⟨p, f1, k, v⟩ = parseOp restOk ⟨p, f2, k, v⟩ := by
  -- only the channel position looks at the form, and only to single out the flag
  have ch (f : Form) (hf : f ≠ .flag) :
      parseOp restOk ⟨.channel, f, k, v⟩ = unmarshalElem restOk .channel k v "ch1".toList := by
    cases f with
    | flag => exact absurd rfl hf
    | _ => rfl
  cases p with
  | channel =>
    obtain ⟨h1, h2⟩ := h.resolve_left (· rfl)
    rw [ch f1 h1, ch f2 h2]
  | _ => rfl

/-- the `name->proto:host` flag builds the channel `unmarshalChannel` builds from
    `{name: name, address: proto://host}` — same switch, same errors -/
theorem C18_forms_agree_channel_flag (restOk : Str → Bool) (v : Str) (g0 name g2 proto host : Str)
    (h : channelRegexMatch v = some [g0, name, g2, proto, host]) :
    parseOp restOk ⟨.channel, .flag, .str, v⟩ =
      unmarshalElem restOk .channel .str (proto ++ "://".toList ++ trimPrefix host "//".toList) name := by
  simp only [parseOp, channelFlag_eq, h, unmarshalElem_eq]
  rfl

/-- no configuration input — any position, any form, any shape of the list element, any string — makes a
    parser panic -/
theorem C18_no_panic_config (restOk : Str → Bool) (o : Op) : parseOp restOk o ≠ .panic := by
  have elem {p : Pos} {k : Kind} {a n : Str} : unmarshalElem restOk p k a n ≠ .panic := by
    rw [unmarshalElem_eq]
    cases k with
    | str => exact parseAndDispatch_no_panic
    | _ => nofun
  obtain ⟨p, f, k, v⟩ := o
  cases p with
  | server => exact elem
  | upstream => exact parseAndDispatch_no_panic
  | channel =>
    cases f with
    | flag =>
      simp only [parseOp, channelFlag_eq]
      split
      · nofun
      · exact parseAndDispatch_no_panic
    | _ => exact elem
  | listener =>
    show listenerFlag restOk v ≠ .panic
    rcases listenerFlag_cases restOk v with ⟨e, he⟩ | hd
    · rw [he]; nofun
    · rw [hd]; exact parseAndDispatch_no_panic

/-! ## names are taken from where the documentation says -/

/-- `--listen <channel>~<listen-url>[~<forward-url>]`: an accepted spec is named by its first part and
    typed by the scheme of its second part, whatever follows (extra `~` parts are ignored, never reinterpreted) -/
theorem C18_listener_parts (restOk : Str → Bool) (v : Str) (c : String) (s n : Str)
    (h : listenerFlag restOk v = .ok c s n) :
    n = (splitOnChar '~' (trim v)).getD 0 [] ∧
    parseAddress restOk ((splitOnChar '~' (trim v)).getD 1 []) = .ok s ∧
    lookup listenerSchemes s = some c := by
  rcases listenerFlag_cases restOk v with ⟨e, he⟩ | hd
  · rw [he] at h; cases h
  · rw [hd] at h; exact parseAndDispatch_ok h

/-- `--channel <name>-><protocol>:<address>`: an accepted flag is named by the text before `->` -/
theorem C18_channel_flag_name (restOk : Str → Bool) (v : Str) (c : String) (s n : Str)
    (h : channelFlag restOk v = .ok c s n) : n = v.takeWhile nameChar := by
  rw [channelFlag_eq] at h
  cases hg : channelRegexMatch v with
  | none => rw [hg] at h; cases h
  | some g => rw [hg] at h; exact (parseAndDispatch_ok h).1.trans (channelRegexMatch_group1 hg)

-- documented schemes resolve (C18_documented_schemes_ok is not vacuous), through whole addresses
example : resolve (fun _ => true) .server "tcp+tls://0.0.0.0:5000".toList = some ⟨"sock", "tcp", true, true⟩ := by decide +kernel
example : resolve (fun _ => true) .upstream " HTTPS://server.example.com/proxy ".toList = some ⟨"ws", "tcp", true, true⟩ := by decide +kernel
example : resolve (fun _ => true) .server "dns+tcp://192.168.8.1:53".toList = some ⟨"dns", "tcp", false, false⟩ := by decide +kernel
-- neighbours are rejected, not silently downgraded
example : resolve (fun _ => true) .server "tcp+tls+tls://h:1".toList = none := by decide +kernel
example : resolve (fun _ => true) .server "tcp+tsl://h:1".toList = none := by decide +kernel
example : resolve (fun _ => true) .upstream "stdin".toList = none := by decide +kernel
example : resolve (fun _ => true) .channel "tcp+tls://h:1".toList = none := by decide +kernel
-- the consistency predicate discriminates: a plain transport is not consistent with a +tls scheme
example : consistent .server "tcp+tls".toList ⟨"sock", "tcp", false, false⟩ = false := by decide +kernel
example : consistent .server "tcp+tls".toList ⟨"sock", "tcp", true, false⟩ = false := by decide +kernel
example : consistent .server "tcp".toList ⟨"sock", "unix", false, false⟩ = false := by decide +kernel
-- the channel flag in its documented form, and the forms agreeing on it
example : parseOp (fun _ => true) ⟨.channel, .flag, .str, "ssh->tcp:127.0.0.1:22".toList⟩
    = .ok "NetworkChannel" "tcp".toList "ssh".toList := by decide +kernel
example : parseOp (fun _ => true) ⟨.channel, .flag, .str, "ssh->udp:127.0.0.1:22".toList⟩ = .error .scheme := by decide +kernel
example : parseOp (fun _ => true) ⟨.channel, .json, .missing, []⟩ = .error .shape := by decide
example : parseOp (fun _ => true) ⟨.listener, .flag, .str, "ssh~tcp://127.0.0.1:2222~tcp://10.0.0.1:22~x".toList⟩
    = .ok "SocketListener" "tcp".toList "ssh".toList := by decide +kernel

end SA.Props.C18

#print axioms SA.Props.C18.C18_gen_regex_sources
#print axioms SA.Props.C18.C18_gen_defaults_are_errors
#print axioms SA.Props.C18.C18_documented_schemes_ok
#print axioms SA.Props.C18.C18_accepted_schemes_start
#print axioms SA.Props.C18.C18_undocumented_consistent_or_error
#print axioms SA.Props.C18.C18_forms_agree
#print axioms SA.Props.C18.C18_forms_agree_channel_flag
#print axioms SA.Props.C18.C18_listener_parts
#print axioms SA.Props.C18.C18_channel_flag_name
#print axioms SA.Props.C18.C18_no_panic_config
#print axioms SA.Props.C18.C18_dns_server_listens_documented

namespace SA.PkgState
/-- **no_hidden_process_state**: the models of this property are functions of their arguments and of the objects they are
    handed; the packages they model keep no package-level variables besides these (regenerated inventory: error
    sentinels, tables, compiled patterns, the two session time-outs).  A new package-level variable — a counter, a cache, a
    scratch buffer, a shared map, a registry — would make later calls depend on earlier ones, or concurrent calls on each
    other, outside anything a per-call comparison of model and code can see. -/
theorem C18_no_hidden_process_state :
    Gen.pkgVarNames_addr = ["HasTls", "PlusEnd"] ∧
    Gen.pkgVarNames_upstream = [] ∧
    Gen.pkgVarNames_listener = [] ∧
    Gen.pkgVarNames_server = ["ChannelRegex"] := ⟨rfl, rfl, rfl, rfl⟩
end SA.PkgState

#print axioms SA.PkgState.C18_no_hidden_process_state
