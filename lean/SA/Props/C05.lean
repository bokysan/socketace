/-
  C05 — Peer authentication is enforced as configured.

  The model (SA.Model.TlsConfig) mirrors cert.go / startTls / the upstream kinds and takes the decisive shapes of the
  source from SA.Gen (regenerated on every run): the inventories of the sites that touch a verification-relevant field of
  a `tls.Config` are obligations of their own below, and each single fact a proof needs (guard polarity, port stripping,
  the host name for tls.Dial, a new object per call, the pool's seed, no shared session cache, the sites that force
  verification off) enters through one `gen_…` lemma, so a change of the source breaks the theorems that rest on it and
  names itself.

  crypto/tls and crypto/x509 are not modelled.  Their documented contract is the universally quantified record
  `X : X509` (chain building, validity, host-name matching) together with `clientAccepts` / `serverAdmits`
  (verification is skipped iff InsecureSkipVerify; a client certificate chaining to ClientCAs is demanded iff
  ClientAuth = RequireAndVerifyClientCert).  It is a parameter of the theorems, never an axiom.

  The proofs read a configuration that loads as the record `loaded` plus one field (SA.Proofs.TlsConfig), a session as
  `tlsSession` of what the two ends hand over, and a history as its attempts made alone.
-/
import SA.Proofs.TlsConfig
import SA.Gen.PkgVars
namespace SA.TlsConfig

/-! ## the regenerated facts the theorems below rest on, each tied in at one place -/

theorem gen_guardErrNil : SA.Gen.serverAuthGuardErrNil = true := rfl
theorem gen_stripsPort : SA.Gen.startTlsStripsPort = true := rfl
theorem gen_setsHostname : SA.Gen.socketDialSetsHostname = true := rfl
theorem gen_freshPerCall : SA.Gen.getTlsConfigFreshPerCall = true := rfl
/-- the pool of addCaCertificates starts empty (`SA.Gen.caPoolStartsEmpty`) -/
theorem gen_poolSeed : poolSeed = [] := rfl
/-- no client session cache is shared between configs (`SA.Gen.clientSessionCacheShared`) -/
theorem gen_noSessionCache : genFacts.sessionCache = none := rfl

/-- the sites of the inventory, as the model reads them: stdio+tls alone forces verification off -/
theorem gen_forcesInsecure (k : Kind) : forcesInsecure SA.Gen.isvSites k = (k == .stdioTls) := by
  cases k <;> decide +kernel

theorem forcesInsecure_verifying {k : Kind} (hk : k ≠ .stdioTls) : forcesInsecure genFacts.sites k = false :=
  (gen_forcesInsecure k).trans (beq_eq_false_iff_ne.mpr hk)

theorem gen_builtPool (o : Opts) : builtPool o = caPool o := builtPool_eq gen_poolSeed o

/-! ## the trust anchors a pool starts from -/

/-- the shape the model was written against: the pool assigned to RootCAs / ClientCAs is a function-local
    `x509.NewCertPool()` and receives only the PEM returned by `m.GetCaCertificates()` -/
theorem C05_ca_pool_shape :
    SA.Gen.caPoolStartsEmpty = true ∧ SA.Gen.caPoolInit = ["x509.NewCertPool()"] ∧
    SA.Gen.caPoolPemFrom = ["m.GetCaCertificates()"] ∧ poolSeed = [] :=
  ⟨rfl, rfl, rfl, gen_poolSeed⟩

/-! ## verification stays on unless the user chose `insecure` -/

/-- the inventory of InsecureSkipVerify sites is what the model was written against: the option
    in cert.go (set only when the flag is set, on the success path) and the documented stdio
    exception; no other file touches the field. -/
theorem C05_isv_site_inventory :
    SA.Gen.isvSites.map (fun s => (s.1, s.2.1)) =
      [("internal/client/upstream/input_output.go", "InputOutput.Connect"),
       ("internal/util/cert/cert.go", "ClientConfig.GetTlsConfig")] ∧
    SA.Gen.isvSites.lookup "internal/util/cert/cert.go" =
      some ("ClientConfig.GetTlsConfig", "true", "err == nil && m.InsecureSkipVerify") := by
  decide +kernel

/-- the inventory of ALL sites that set a verification-affecting field of a `tls.Config`
    (Time, VerifyPeerCertificate, VerifyConnection, InsecureSkipVerify, ClientAuth, RootCAs,
    ClientCAs, ServerName, GetConfigForClient — assignment or composite-literal element, anywhere in
    non-test code) is the list the model mirrors, site by site.  A new site (a clock of its own, a
    verification callback, a second pool assignment, …) breaks this obligation and names itself. -/
theorem C05_verification_field_inventory :
    SA.Gen.tlsVerifFieldSites = modelledVerifFieldSites := by
  decide +kernel

/-- hence no code path gives the config a clock of its own, a verification callback or a
    per-connection config: what `InsecureSkipVerify = false` / `RequireAndVerifyClientCert` mean is
    crypto/tls's own procedure evaluated at the wall clock (the `X509` contract of the theorems). -/
theorem C05_no_verification_override :
    ∀ s ∈ SA.Gen.tlsVerifFieldSites,
      s.2.2 ∈ ["InsecureSkipVerify", "ClientAuth", "RootCAs", "ClientCAs", "ServerName"] := by
  rw [C05_verification_field_inventory]; decide

/-- **no session-resumption state**: no site in non-test code gives a `tls.Config` state that lets crypto/tls skip
    the certificate exchange on a later connection - a `ClientSessionCache` that outlives the config (package-level,
    a field of the configuration object, …), fixed or shared session-ticket keys, ticket (un)wrapping callbacks.  The
    only tolerated shapes are a cache created by `tls.NewLRUClientSessionCache` for that one config inside a function
    (it dies with the config, which serves one connection), `nil`, and switching tickets off.  Hence the configs the model hands to crypto/tls carry
    no cache (`genFacts.sessionCache = none`), which is what `C05_history_independent` rests on. -/
theorem C05_session_state_inventory :
    (∀ s ∈ SA.Gen.tlsSessionStateSites,
      (s.2.2.1 = "ClientSessionCache" ∧ (s.2.2.2 = "percall" ∨ s.2.2.2 = "nil")) ∨
      (s.2.2.1 = "SessionTicketsDisabled" ∧ s.2.2.2 = "true")) ∧
    SA.Gen.clientSessionCacheShared = false ∧ genFacts.sessionCache = none :=
  ⟨by decide, rfl, gen_noSessionCache⟩

/-- the harness PKI's validity-boundary classes under the reference oracle: a certificate outside
    its validity period at the moment of use (expired 24 h / 60 s / 1 s ago, valid only from 120 s on)
    is refused by a verifying client whatever the carrier, and its holder is not admitted by a server
    that requires client certificates; the short-lived `fresh` certificate is inside its period.
    (Instances of `C05_auth_sound` / `C05_auth_sound_server`; these are the cells the matrix drives.) -/
theorem C05_validity_boundary_table :
    (∀ c ∈ ["expired", "exp1m", "exp1s", "notyet", "cexpired", "cexp1m", "cexp1s", "cnotyet"],
        refX509.validNow c = false) ∧
    (∀ c ∈ ["good", "fresh", "cgood", "cfresh"], refX509.validNow c = true) := by
  decide +kernel

/-- for every upstream kind except stdio+tls, the config handed to crypto/tls skips
    verification exactly when the `insecure` option is set -/
theorem C05_verify_on_unless_insecure (k : Kind) (hk : k ≠ .stdioTls) (o : Opts) (conf : TlsCfg)
    (h : clientCfgFor SA.Gen.isvSites k o = .ok conf) : conf.insecureSkipVerify = o.flag := by
  obtain ⟨c, hc, rfl⟩ := clientCfgFor_ok_iff.mp h
  obtain ⟨crt, rfl⟩ := client_eq hc
  rw [gen_forcesInsecure, beq_eq_false_iff_ne.mpr hk]
  rfl

/-- the documented exception: stdio+tls never verifies -/
theorem C05_stdio_exception (o : Opts) (conf : TlsCfg)
    (h : clientCfgFor SA.Gen.isvSites .stdioTls o = .ok conf) : conf.insecureSkipVerify = true := by
  obtain ⟨c, -, rfl⟩ := clientCfgFor_ok_iff.mp h
  rw [gen_forcesInsecure]
  rfl

/-- the pool the server certificate is verified against is the configured CA -/
theorem C05_root_pool_is_configured_ca (k : Kind) (o : Opts) (conf : TlsCfg)
    (h : clientCfgFor SA.Gen.isvSites k o = .ok conf) : conf.rootCAs = caPool o := by
  obtain ⟨c, hc, rfl⟩ := clientCfgFor_ok_iff.mp h
  obtain ⟨crt, rfl⟩ := client_eq hc
  split <;> exact gen_builtPool o

/-! ## which trust anchors end up in the pools handed to crypto/tls

    `RootCAs` (what a verifying client accepts) and `ClientCAs` (what a server demanding client certificates
    admits) must hold the configured CA certificates and NOTHING else: not the operating system's roots, not a
    process-wide or cached pool, not the CAs of another configuration object, not the endpoint's own leaf.  The
    model's pool is `poolSeed ++ configured`, where `poolSeed` comes from the regenerated shape of
    `Config.addCaCertificates` (SA.Gen.caPool…): the theorems below hold because the seed is empty. -/

/-- the CA certificates the `ca-certificate[-file]` option names (specification side: read off the option) -/
def configuredAnchors (o : Opts) : List String :=
  match readSrc o.ca .cafile with
  | .ok (.cas ids) => ids
  | _ => []

/-- what the CA option denotes is exactly the configured certificates: a pool exists iff at least one CA
    certificate is configured, and then it lists those certificates and no other -/
theorem C05_ca_pool_exact (o : Opts) :
    (∀ pool, caPool o = some pool → pool = configuredAnchors o ∧ pool ≠ []) ∧
    (caPool o = none → configuredAnchors o = [] ∨ ∃ e, readSrc o.ca .cafile = .err e) := by
  unfold caPool configuredAnchors
  cases readSrc o.ca .cafile with
  | err e => simp
  | panic => simp
  | ok b => cases b <;> simp [parseCAs]

/-- **the pools hold exactly the configured anchors**: in every configuration that loads (plain, client, server),
    RootCAs and ClientCAs are the same pool; when a pool is set it lists precisely the configured CA certificates;
    when none is set no CA certificate is configured (crypto/tls then verifies against the system store, its
    documented default). -/
theorem C05_pools_exactly_configured (o : Opts) (c : TlsCfg) (g : Bool)
    (h : configGetTlsConfig o = .ok c ∨ clientGetTlsConfig o = .ok c ∨ serverGetTlsConfig g o = .ok c) :
    c.clientCAs = caPool o ∧
    (∀ pool, c.clientCAs = some pool → pool = configuredAnchors o ∧ pool ≠ []) ∧
    (c.clientCAs = none → configuredAnchors o = []) ∧
    ((configGetTlsConfig o = .ok c ∨ clientGetTlsConfig o = .ok c) → c.rootCAs = c.clientCAs) := by
  -- whichever of the three loaded, Config.GetTlsConfig did, and the two pools are its pools
  obtain ⟨c0, h0, hcca, hroot⟩ : ∃ c0, configGetTlsConfig o = .ok c0 ∧ c.clientCAs = c0.clientCAs ∧
      c.rootCAs = c0.rootCAs := by
    rcases h with h | h | h
    · exact ⟨c, h, rfl, rfl⟩
    · obtain ⟨c0, h0, rfl⟩ := clientGetTlsConfig_ok_iff.mp h
      exact ⟨c0, h0, by split <;> rfl, by split <;> rfl⟩
    · obtain ⟨c0, h0, rfl⟩ := serverGetTlsConfig_ok_iff.mp h
      exact ⟨c0, h0, by split <;> rfl, by split <;> rfl⟩
  obtain ⟨crt, b, -, hb, rfl⟩ := config_eq h0
  obtain ⟨hpool, hnopool⟩ := C05_ca_pool_exact o
  replace hcca : c.clientCAs = caPool o := hcca.trans (gen_builtPool o)
  refine ⟨hcca, fun pool hp => hpool pool (hcca ▸ hp), fun hn => ?_, fun _ => by rw [hroot, hcca]; exact gen_builtPool o⟩
  rcases hnopool (hcca ▸ hn) with h1 | ⟨e, he⟩
  · exact h1
  · rw [hb] at he; cases he

/-- the contract of crypto/x509 chain building this section relies on (a hypothesis, never an axiom): a chain
    accepted against a pool ends in ONE certificate of that pool -/
def Anchored (X : X509) : Prop :=
  ∀ pool c, X.chains (some pool) c = true → ∃ a, a ∈ pool ∧ X.chains (some [a]) c = true

/-! ## the expected server name is the upstream host name, without the port -/

/-- well-formed upstream authority `h:p`: a non-bracketed host and a numeric port -/
def WfHostPort (h p : Name) : Prop := Plain h ∧ h ≠ [] ∧ p.all isDigit = true

/-- every upstream kind that verifies names the server by the host part of its address
    (`r` = whatever the address resolves to) -/
theorem C05_expected_name (k : Kind) (hk : k ≠ .stdioTls) (h p r : Name) (hw : WfHostPort h p) :
    nameFor genFacts k (h ++ ':' :: p) r = h := by
  obtain ⟨hplain, hne, hdigits⟩ := hw
  rw [nameFor_hostport (F := genFacts) gen_stripsPort gen_setsHostname k hk h p r hplain hdigits, if_neg fun hc => hne hc.2]

/-- StartTLS also handles any port text and a host given without port -/
theorem C05_expected_name_starttls (h p : Name) (hh : Plain h) (hp : Plain p) :
    startTlsName SA.Gen.startTlsStripsPort (h ++ ':' :: p) = h ∧
    startTlsName SA.Gen.startTlsStripsPort h = h := by
  rw [gen_stripsPort]
  exact ⟨startTlsName_hostport h p hh hp, startTlsName_noport fun c hc => (hh c hc).1⟩

/-! ## the client-certificate requirement -/

/-- `require-client-cert` puts RequireAndVerifyClientCert and the configured CA pool into the
    server's TLS config (and nothing else does) -/
theorem C05_client_cert_required (o : Opts) (conf : TlsCfg)
    (h : serverGetTlsConfig SA.Gen.serverAuthGuardErrNil o = .ok conf) :
    (o.flag = true → conf.clientAuth = .requireAndVerifyClientCert ∧ conf.clientCAs = caPool o) ∧
    (o.flag = false → conf.clientAuth = .noClientCert) := by
  obtain ⟨crt, rfl⟩ := server_eq h
  rw [gen_guardErrNil]
  exact ⟨fun hf => ⟨by simp [hf], gen_builtPool o⟩, fun hf => by simp [hf]⟩

/-- the `err == nil` guard adds no crash of its own: ServerConfig.GetTlsConfig panics only where
    Config.GetTlsConfig already does (the inverted guard does add one: `C05_witness_inverted_guard_panics`) -/
theorem C05_server_config_panic_free (o : Opts)
    (h : serverGetTlsConfig SA.Gen.serverAuthGuardErrNil o = .panic) : configGetTlsConfig o = .panic :=
  (serverGetTlsConfig_panic_iff.mp h).resolve_right fun ⟨hg, _⟩ => by rw [gen_guardErrNil] at hg; cases hg

/-! ## sessions, under the crypto/tls + crypto/x509 contract -/

/-- **soundness for any host form**: whatever the upstream authority looks like, a session established with
    verification on means the server certificate chains to the configured CA, is valid, and matches the name the kind
    derives from the authority - which is not the empty string. -/
theorem C05_auth_sound_any_host (X : X509) (k : Kind) (hk : k ≠ .stdioTls) (hostport r : Name)
    (co so : Opts) (hins : co.flag = false)
    (he : established X genFacts k hostport r co so = true) :
    nameFor genFacts k hostport r ≠ [] ∧
    ∃ scfg peer, serverGetTlsConfig SA.Gen.serverAuthGuardErrNil so = .ok scfg ∧ scfg.certs.head? = some peer ∧
      X.chains (caPool co) peer = true ∧ X.validNow peer = true ∧
      X.matchesName (nameFor genFacts k hostport r) peer = true := by
  obtain ⟨ccfg, scfg, peer, hc, hs, hp, hacc, -⟩ := established_iff.mp he
  -- verification is on (`hins`), against the configured pool
  obtain ⟨hn, hch, hv, hm⟩ := clientAccepts_verifying hacc ((C05_verify_on_unless_insecure k hk co ccfg hc).trans hins)
  exact ⟨hn, scfg, peer, hs, hp, C05_root_pool_is_configured_ca k co ccfg hc ▸ hch, hv, hm⟩

/-- **soundness (client side)**: with verification on, a session is established only with a
    server whose certificate chains to the configured CA, is valid, and matches the upstream host
    name — for every verifying upstream kind, every option set, every oracle. -/
theorem C05_auth_sound (X : X509) (k : Kind) (hk : k ≠ .stdioTls) (h p r : Name) (hw : WfHostPort h p)
    (co so : Opts) (hins : co.flag = false)
    (he : established X genFacts k (h ++ ':' :: p) r co so = true) :
    ∃ scfg peer, serverGetTlsConfig SA.Gen.serverAuthGuardErrNil so = .ok scfg ∧ scfg.certs.head? = some peer ∧
      X.chains (caPool co) peer = true ∧ X.validNow peer = true ∧ X.matchesName h peer = true := by
  obtain ⟨-, scfg, peer, hs, hp, hch, hv, hm⟩ := C05_auth_sound_any_host X k hk _ r co so hins he
  exact ⟨scfg, peer, hs, hp, hch, hv, C05_expected_name k hk h p r hw ▸ hm⟩

/-- **soundness (server side)**: a server configured to require client certificates admits
    only a client presenting a valid certificate that chains to the server's configured CA —
    every carrier (also stdio+tls), whatever the client's `insecure` flag. -/
theorem C05_auth_sound_server (X : X509) (k : Kind) (hostport r : Name) (co so : Opts) (hreq : so.flag = true)
    (he : established X genFacts k hostport r co so = true) :
    ∃ ccfg c, clientCfgFor SA.Gen.isvSites k co = .ok ccfg ∧ ccfg.certs.head? = some c ∧
      X.chains (caPool so) c = true ∧ X.validNow c = true := by
  obtain ⟨ccfg, scfg, peer, hc, hs, -, -, hadm⟩ := established_iff.mp he
  obtain ⟨hauth, hpool⟩ := (C05_client_cert_required so scfg hs).1 hreq
  obtain ⟨c, hcc, hch, hv⟩ := (serverAdmits_required_iff hauth).mp hadm
  exact ⟨ccfg, c, hc, hcc, hpool ▸ hch, hv⟩

/-- **completeness**: a client (verification on or off) does establish the session with a
    server whose certificate chains to the client's configured CA, is valid and matches the
    upstream host name, provided the server's own requirement on the client is met. -/
theorem C05_auth_complete (X : X509) (k : Kind) (hk : k ≠ .stdioTls) (h p r : Name) (hw : WfHostPort h p)
    (co so : Opts) (ccfg scfg : TlsCfg) (peer : String)
    (hc : clientGetTlsConfig co = .ok ccfg) (hs : configGetTlsConfig so = .ok scfg)
    (hpeer : scfg.certs.head? = some peer)
    (hchain : X.chains (caPool co) peer = true) (hvalid : X.validNow peer = true)
    (hmatch : X.matchesName h peer = true)
    (hcli : so.flag = false ∨
      ∃ c, ccfg.certs.head? = some c ∧ X.chains (caPool so) c = true ∧ X.validNow c = true) :
    established X genFacts k (h ++ ':' :: p) r co so = true := by
  obtain ⟨crt, rfl⟩ := client_eq hc
  obtain ⟨crt', -, -, -, rfl⟩ := config_eq hs
  obtain rfl : crt' = some peer := by cases crt' <;> cases hpeer <;> rfl
  -- what the two ends hand to crypto/tls: `handed` names `h` and verifies against the client's pool
  rw [established_eq, hc, serverGetTlsConfig_ok_iff.mpr ⟨_, hs, rfl⟩]
  simp only [handed, forcesInsecure_verifying hk, C05_expected_name k hk h p r hw,
    show genFacts.guardErrNil = true from gen_guardErrNil, Bool.true_and, tlsSession]
  have hroot : X.chains (builtPool co) peer = true := gen_builtPool co ▸ hchain
  have hne : h ≠ [] := hw.2.1
  -- the server presents `peer`: the client's four checks are the hypotheses; the server's, if it requires a
  -- certificate, `hcli`
  cases hfl : so.flag with
  | false =>
    simp only [Bool.false_eq_true, if_false, hpeer, Bool.and_eq_true]
    exact ⟨clientAccepts_of_verified hne hroot hvalid hmatch, serverAdmits_noClientCert rfl⟩
  | true =>
    rcases hcli with hno | ⟨c, hcert, hch, hv⟩
    · rw [hfl] at hno; cases hno
    · have hcca : X.chains (builtPool so) c = true := gen_builtPool so ▸ hch
      simp only [Bool.false_eq_true, if_false, if_true, hpeer, Bool.and_eq_true]
      exact ⟨clientAccepts_of_verified hne hroot hvalid hmatch, (serverAdmits_required_iff rfl).mpr ⟨c, hcert, hcca, hv⟩⟩

/-! ## host forms outside `WfHostPort`: port-only, IPv6 literals, trailing dot, upper case, userinfo

    `C05_auth_sound` speaks about `h:p` with a plain non-empty `h`.  For EVERY authority string whatsoever the model
    derives one name per kind (`nameFor`); a verified session exists only if that derived name is non-empty and the
    certificate matches it - there is no host form for which verification is silently switched off. -/

/-- **a port-only upstream (`tcp://:9000`, `udp://:9000`, `ws://:8080/ws`, `wss://:443`, `tcp+tls://:9000`) has no
    name to match: with verification on no session is established**, for every oracle, option set and port, whatever
    the certificate of the server. -/
theorem C05_port_only_refused (X : X509) (k : Kind) (hk : k ≠ .stdioTls) (p : Name) (hp : p.all isDigit = true)
    (co so : Opts) (hins : co.flag = false) :
    established X genFacts k (':' :: p) (':' :: p) co so = false := by
  cases he : established X genFacts k (':' :: p) (':' :: p) co so with
  | false => rfl
  | true =>
    refine absurd ?_ (C05_auth_sound_any_host X k hk (':' :: p) (':' :: p) co so hins he).1
    -- the host part is empty: that is the name, also where tls.Dial derives it from the resolved `:p`
    have := nameFor_hostport (F := genFacts) gen_stripsPort gen_setsHostname k hk [] p (':' :: p) (by simp [Plain]) hp
    rw [List.nil_append] at this
    rw [this]
    split
    · exact dialHostname_hostport [] p fun c hc => (plain_of_digits hp c hc).1
    · rfl

/-- the name each kind derives for the host forms outside `WfHostPort` (what crypto/tls is asked to verify), and
    the reference oracle's reading of them: brackets are dropped by SplitHostPort / Hostname(), a zone stays in the
    name (and is no host name), upper case and a trailing dot are kept (x509 ignores them), a port-only authority
    gives the empty name -/
theorem C05_host_form_names :
    startTlsName SA.Gen.startTlsStripsPort ":9000".toList = [] ∧
    nameFor genFacts .socketTls ":9000".toList ":9000".toList = [] ∧
    nameFor genFacts .httpTls ":8080".toList ":8080".toList = [] ∧
    startTlsName SA.Gen.startTlsStripsPort "[::1]:443".toList = "::1".toList ∧
    nameFor genFacts .socketTls "[::1]:443".toList "[::1]:443".toList = "::1".toList ∧
    startTlsName SA.Gen.startTlsStripsPort "[::1%lo]:443".toList = "::1%lo".toList ∧
    startTlsName SA.Gen.startTlsStripsPort "::1:443".toList = "::1:443".toList ∧
    startTlsName SA.Gen.startTlsStripsPort "LOCALHOST.:443".toList = "LOCALHOST.".toList ∧
    refX509.matchesName "LOCALHOST.".toList "good" = true ∧ refX509.matchesName "::1".toList "good" = true ∧
    refX509.matchesName "[::ffff:127.0.0.1]".toList "iponly" = true ∧ refX509.matchesName "::1".toList "iponly" = false ∧
    refX509.matchesName "::1%lo".toList "good" = false ∧ refX509.matchesName "::1:443".toList "good" = false ∧
    refX509.matchesName "127.0.0.1.".toList "good" = false ∧ refX509.matchesName [] "good" = false := by
  decide +kernel

/-- non-vacuity: a verifying client against the `untrusted` (foreign CA) server at a port-only upstream is refused,
    the insecure client is served; `[::1]` with the good certificate is established -/
example : established refX509 genFacts .startTls ":4443".toList ":4443".toList
    { ca := ⟨none, some (.cas ["A"])⟩ } { cert := ⟨none, some (.cert "untrusted")⟩, key := ⟨none, some (.key "untrusted" .plain)⟩ } = false := by decide +kernel
example : established refX509 genFacts .startTls ":4443".toList ":4443".toList
    { ca := ⟨none, some (.cas ["A"])⟩, flag := true } { cert := ⟨none, some (.cert "untrusted")⟩, key := ⟨none, some (.key "untrusted" .plain)⟩ } = true := by decide +kernel
example : established refX509 genFacts .startTls "[::1]:4443".toList "[::1]:4443".toList
    { ca := ⟨none, some (.cas ["A"])⟩ } { cert := ⟨none, some (.cert "good")⟩, key := ⟨none, some (.key "good" .plain)⟩ } = true := by decide +kernel

/-! ## acceptance only via a configured trust anchor -/

theorem configured_anchor {X : X509} (hX : Anchored X) {o : Opts} {c : String} (hca : configuredAnchors o ≠ [])
    (hch : X.chains (caPool o) c = true) : ∃ a ∈ configuredAnchors o, X.chains (some [a]) c = true := by
  obtain ⟨hsome, hnone⟩ := C05_ca_pool_exact o
  cases hpool : caPool o with
  | none =>
    -- no pool: nothing configured, or the CA file unreadable; either way no configured anchor
    rcases hnone hpool with h0 | ⟨e, he⟩
    · exact absurd h0 hca
    · exact absurd (by simp [configuredAnchors, he]) hca
  | some pool =>
    rw [hpool] at hch
    obtain ⟨a, ha, hcha⟩ := hX pool c hch
    exact ⟨a, (hsome pool hpool).1 ▸ ha, hcha⟩

/-- **acceptance only via a configured anchor (client side)**: for every authority string, every verifying kind,
    every option set that configures a CA and every oracle whose chains end in an anchor of the pool given: a
    session established with verification on means the server certificate chains to ONE OF THE CONFIGURED CA
    CERTIFICATES (and is valid and matches the derived name).  No other anchor - system root, cached pool,
    another object's CA - can have vouched for it. -/
theorem C05_auth_sound_configured_anchor (X : X509) (hX : Anchored X) (k : Kind) (hk : k ≠ .stdioTls)
    (hostport r : Name) (co so : Opts) (hins : co.flag = false) (hca : configuredAnchors co ≠ [])
    (he : established X genFacts k hostport r co so = true) :
    ∃ scfg peer a, serverGetTlsConfig SA.Gen.serverAuthGuardErrNil so = .ok scfg ∧ scfg.certs.head? = some peer ∧
      a ∈ configuredAnchors co ∧ X.chains (some [a]) peer = true ∧ X.validNow peer = true ∧
      X.matchesName (nameFor genFacts k hostport r) peer = true := by
  obtain ⟨_, scfg, peer, hs, hp, hch, hv, hm⟩ := C05_auth_sound_any_host X k hk hostport r co so hins he
  obtain ⟨a, ha, hcha⟩ := configured_anchor hX hca hch
  exact ⟨scfg, peer, a, hs, hp, ha, hcha, hv, hm⟩

/-- **acceptance only via a configured anchor (server side)**: a server that requires client certificates and
    configures a CA admits only a client whose certificate chains to one of the server's configured CA
    certificates - every carrier, whatever the client configures -/
theorem C05_auth_sound_server_configured_anchor (X : X509) (hX : Anchored X) (k : Kind) (hostport r : Name)
    (co so : Opts) (hreq : so.flag = true) (hca : configuredAnchors so ≠ [])
    (he : established X genFacts k hostport r co so = true) :
    ∃ ccfg c a, clientCfgFor SA.Gen.isvSites k co = .ok ccfg ∧ ccfg.certs.head? = some c ∧
      a ∈ configuredAnchors so ∧ X.chains (some [a]) c = true ∧ X.validNow c = true := by
  obtain ⟨ccfg, c, hc, hcc, hch, hv⟩ := C05_auth_sound_server X k hostport r co so hreq he
  obtain ⟨a, ha, hcha⟩ := configured_anchor hX hca hch
  exact ⟨ccfg, c, a, hc, hcc, ha, hcha, hv⟩

/-- the reference oracle of the harness PKI satisfies the chain contract -/
theorem C05_ref_oracle_anchored : Anchored refX509 := by
  intro pool c h
  simp only [refX509] at h ⊢
  cases hl : certTable.lookup c with
  | none => simp [hl] at h
  | some a =>
    simp only [hl, List.contains_iff_mem] at h
    exact ⟨a.signer, h, by simp⟩

/-- the harness cells with a peer certified by the system CA S (configured nowhere): refused wherever a CA is
    configured on the verifying side, accepted exactly where none is (nil pool = the system store) -/
theorem C05_system_anchor_table :
    -- verifying client with CA A / CA B configured, server certified by S: refused; no CA configured: established
    established refX509 genFacts .startTls "server.test:4443".toList [] { ca := caSrcOf "A" } (leafSrc "sys" {}) = false ∧
    established refX509 genFacts .socketTls "localhost:4443".toList "127.0.0.1:4443".toList { ca := caSrcOf "B" } (leafSrc "sys" {}) = false ∧
    established refX509 genFacts .startTls "server.test:4443".toList [] { ca := caSrcOf "-" } (leafSrc "sys" {}) = true ∧
    established refX509 genFacts .startTls "server.test:4443".toList [] { ca := caSrcOf "-" } (leafSrc "good" {}) = false ∧
    -- server demanding client certificates with CA A configured, client certified by S: refused; CA-less server: admitted
    established refX509 genFacts .startTls "server.test:4443".toList [] (leafSrc "csys" { ca := caSrcOf "A" })
      (leafSrc "good" { ca := caSrcOf "A", flag := true }) = false ∧
    established refX509 genFacts .stdioTls [] [] (leafSrc "csys" { ca := caSrcOf "A" })
      (leafSrc "good" { ca := caSrcOf "A", flag := true }) = false ∧
    established refX509 genFacts .startTls "server.test:4443".toList [] (leafSrc "csys" { ca := caSrcOf "A" })
      (leafSrc "good" { ca := caSrcOf "-", flag := true }) = true ∧
    -- the two sides are configured with different CAs: each verifies by ITS OWN
    established refX509 genFacts .startTls "server.test:4443".toList [] (leafSrc "cgood" { ca := caSrcOf "A" })
      (leafSrc "good" { ca := caSrcOf "B", flag := true }) = false ∧
    established refX509 genFacts .startTls "server.test:4443".toList [] (leafSrc "cforeign" { ca := caSrcOf "A" })
      (leafSrc "good" { ca := caSrcOf "B", flag := true }) = true ∧
    established refX509 genFacts .startTls "server.test:4443".toList [] { ca := caSrcOf "A" }
      (leafSrc "untrusted" { ca := caSrcOf "B" }) = false := by
  decide +kernel

/-- the configuration `addCaCertificates` would build from a pool that already holds `seed` -/
def seededCfg (seed : List String) (o : Opts) : TlsCfg :=
  match addCaCertificatesFrom seed o {} with
  | .ok c => c
  | _ => {}

/-- **witness: a pool seeded with foreign anchors**.  Had the pool started from the system store (seed = [S])
    instead of `x509.NewCertPool()`, a client configured with CA A would accept a server certified by S and a
    server demanding client certificates with CA A would admit a client certified by S - with the empty seed both
    are refused.  Likewise a pool carried over from another configuration object (seed = [B]) accepts B's
    certificates.  (Reproduced on the real code: notes/C05.md, "Strengthening round 5".) -/
theorem C05_witness_seeded_pool_accepts_foreign :
    let o : Opts := { ca := caSrcOf "A" }
    clientAccepts refX509 { seededCfg sysAnchors o with serverName := "server.test".toList } "sys" = true ∧
    serverAdmits refX509 { seededCfg sysAnchors o with clientAuth := .requireAndVerifyClientCert } (some "csys") = true ∧
    clientAccepts refX509 { seededCfg ["B"] o with serverName := "server.test".toList } "untrusted" = true ∧
    serverAdmits refX509 { seededCfg ["B"] o with clientAuth := .requireAndVerifyClientCert } (some "cforeign") = true ∧
    clientAccepts refX509 { seededCfg [] o with serverName := "server.test".toList } "sys" = false ∧
    serverAdmits refX509 { seededCfg [] o with clientAuth := .requireAndVerifyClientCert } (some "csys") = false ∧
    clientAccepts refX509 { seededCfg [] o with serverName := "server.test".toList } "untrusted" = false ∧
    clientAccepts refX509 { seededCfg [] o with serverName := "server.test".toList } "good" = true ∧
    (seededCfg sysAnchors o).rootCAs = some ["S", "A"] ∧ (seededCfg [] o).rootCAs = some ["A"] := by
  decide +kernel

-- non-vacuity: the hypotheses of the anchor theorems are satisfiable (CA A configured, session established)
example : configuredAnchors { ca := caSrcOf "A" } = ["A"] ∧ configuredAnchors { ca := caSrcOf "-" } = [] ∧
    configuredAnchors { ca := ⟨some (some (.cas ["A", "B"])), some (.cas ["B"])⟩ } = ["A", "B"] := by decide
example : established refX509 genFacts .startTls "server.test:4443".toList [] (leafSrc "cgood" { ca := caSrcOf "A" })
    (leafSrc "good" { ca := caSrcOf "A", flag := true }) = true := by decide +kernel

/-! ## the UDP shared secret -/

/-- both ends derive the cipher key by the same function of the password: identical pbkdf2
    argument lists and identical derivation of `pass`/`salt` (for every KDF and hash) -/
theorem C05_udp_secret_symmetric
    (kdf : List Nat → List Nat → String → String → List Nat) (sha : List Nat → List Nat) (pw : List Nat) :
    udpKey SA.Gen.pbkdf2ArgsClient kdf sha pw = udpKey SA.Gen.pbkdf2ArgsServer kdf sha pw ∧
    (udpKey SA.Gen.pbkdf2ArgsServer kdf sha pw).isSome = true ∧
    SA.Gen.secretDerivationClient = SA.Gen.secretDerivationServer ∧
    SA.Gen.pbkdf2KeyLenClient = SA.Gen.pbkdf2KeyLenServer ∧
    SA.Gen.cipherArgClient = "key" ∧ SA.Gen.cipherArgServer = "key" := by
  exact ⟨rfl, rfl, rfl, rfl, rfl, rfl⟩

/-- an endpoint protected by a secret never runs without the cipher (it is encrypted, or it
    does not start at all) — for every key length the source may name -/
theorem C05_udp_fail_closed (keyLen : Nat) (pw : List Nat) (hpw : pw ≠ []) :
    udpStart keyLen (some pw) ≠ .plain := by
  unfold udpStart
  cases pw with
  | nil => exact absurd rfl hpw
  | cons a as =>
    simp only [List.isEmpty_cons, Bool.false_eq_true, if_false]
    split <;> simp

/-- a protected server admits only clients whose key equals its own, i.e. (when the key
    derivation does not collide on the two passwords) clients holding the same secret -/
theorem C05_udp_admits_same_secret (keyLenS keyLenC : Nat) (keyOf : List Nat → Option (List Nat))
    (pwS : List Nat) (pwC : Option (List Nat)) (hpw : pwS ≠ [])
    (hinj : ∀ b, keyOf pwS = keyOf b → pwS = b)
    (h : udpAdmits keyLenS keyLenC keyOf (some pwS) pwC = true) : pwC = some pwS := by
  unfold udpAdmits at h
  have hs := C05_udp_fail_closed keyLenS pwS hpw
  cases hS : udpStart keyLenS (some pwS) with
  | plain => exact absurd hS hs
  | errAesKey => simp [hS] at h
  | encrypted =>
    cases hC : udpStart keyLenC pwC with
    | plain => simp [hS, hC] at h
    | errAesKey => simp [hS, hC] at h
    | encrypted =>
      cases pwC with
      | none => simp [hS, hC] at h
      | some b =>
        simp only [hS, hC, Bool.and_eq_true, beq_iff_eq] at h
        rw [hinj b h.2]

/-! ## histories: fail-over lists, reconnects, several upstream kinds through ONE manager

    `Upstreams.open` tries every upstream of the list with the same certificate manager, a lost
    session is re-opened with it, and every upstream kind writes into the `*tls.Config` it gets
    (Socket.Connect: ServerName when empty; startTls: ServerName; stdin+tls: InsecureSkipVerify).
    `runHist` threads the manager's state through the attempts; whether that state can carry
    anything is the regenerated fact SA.Gen.getTlsConfigFreshPerCall. -/

/-- **history independence**: whatever was attempted before by this process (other hosts, other kinds, the SAME
    server endpoint under another configuration - another CA, another or no client certificate, verification off -,
    failed or established, through the one configuration object or through an object of its own, from any state of
    the object and whatever session tickets crypto/tls holds), what attempt `i` hands to crypto/tls and whether it
    is established are those of the attempt made alone — a function of the client options IN FORCE FOR THAT ATTEMPT
    and of upstream `i` only.  Holds for the fail-over walk and for connect / disconnect / connect.  Rests on two
    regenerated facts: every GetTlsConfig call builds a new object, and no session cache outlives a config. -/
theorem C05_history_independent (X : X509) (failover : Bool) (ss : List Step) (m : Mgr) (ts : List Ticket)
    (i : Nat) (out : Outcome)
    (h : (runHist X genFacts SA.Gen.getTlsConfigFreshPerCall failover ss m ts)[i]? = some (some out)) :
    ∃ s, ss[i]? = some s ∧ out = alone X genFacts s.co s.att := by
  rw [gen_freshPerCall] at h
  exact runHist_fresh X genFacts gen_noSessionCache failover ss m ts i out h

/-- … in the form the theorems below use: the attempt at position `i` is known -/
theorem history_alone {X : X509} {failover : Bool} {ss : List Step} {m : Mgr} {ts : List Ticket} {i : Nat}
    {out : Outcome} {co : Opts} {nm : Bool} {a : Attempt}
    (hr : (runHist X genFacts SA.Gen.getTlsConfigFreshPerCall failover ss m ts)[i]? = some (some out))
    (ha : ss[i]? = some ⟨co, nm, a⟩) : out = alone X genFacts co a := by
  obtain ⟨s, hs, hout⟩ := C05_history_independent X failover ss m ts i out hr
  rw [ha] at hs
  cases hs
  exact hout

/-- without fail-over every attempt of the history is made -/
theorem C05_history_seq (X : X509) (ss : List Step) (m : Mgr) (ts : List Ticket) :
    runHist X genFacts SA.Gen.getTlsConfigFreshPerCall false ss m ts = ss.map (fun s => some (alone X genFacts s.co s.att)) := by
  rw [gen_freshPerCall]
  exact runHist_seq_fresh X genFacts gen_noSessionCache ss m ts

/-- the config an attempt hands to crypto/tls, for a verifying kind with a well-formed `h:p`:
    it names `h` and skips verification exactly when the option says so — at every position of
    every history -/
theorem C05_history_config (X : X509) (failover : Bool) (ss : List Step) (m : Mgr) (ts : List Ticket)
    (i : Nat) (out : Outcome) (co : Opts) (nm : Bool) (a : Attempt) (c : TlsCfg) (h p : Name) (hw : WfHostPort h p)
    (hr : (runHist X genFacts SA.Gen.getTlsConfigFreshPerCall failover ss m ts)[i]? = some (some out))
    (ha : ss[i]? = some ⟨co, nm, a⟩) (hk : a.kind ≠ .stdioTls) (hhp : a.hostport = h ++ ':' :: p) (hc : out.cfg = some c) :
    effName a.kind a.hostport a.resolved c = h ∧ c.insecureSkipVerify = co.flag ∧ c.rootCAs = caPool co := by
  rw [history_alone hr ha] at hc
  obtain ⟨c0, hcl, rfl⟩ := alone_cfg hc
  obtain ⟨crt, rfl⟩ := client_eq hcl
  -- every field asked about is a field of `handed`
  have hkw := kindWrites_eq_handed genFacts a.kind a.hostport a.resolved { loaded crt co with insecureSkipVerify := co.flag } rfl
  simp only [handed, forcesInsecure_verifying hk, Bool.false_eq_true, if_false] at hkw
  refine ⟨(congrArg TlsCfg.serverName hkw).trans ?_, congrArg TlsCfg.insecureSkipVerify hkw,
    (congrArg TlsCfg.rootCAs hkw).trans (gen_builtPool co)⟩
  rw [hhp]
  exact C05_expected_name a.kind hk h p a.resolved hw

/-- **soundness per attempt**: at any position of any history through one manager, with
    verification on, a session is established only with a server whose certificate chains to the
    configured CA, is valid, and matches the host name of THIS upstream -/
theorem C05_history_auth_sound (X : X509) (failover : Bool) (ss : List Step) (m : Mgr) (ts : List Ticket)
    (i : Nat) (out : Outcome) (co : Opts) (nm : Bool) (a : Attempt) (h p : Name) (hw : WfHostPort h p)
    (hr : (runHist X genFacts SA.Gen.getTlsConfigFreshPerCall failover ss m ts)[i]? = some (some out))
    (ha : ss[i]? = some ⟨co, nm, a⟩) (hk : a.kind ≠ .stdioTls) (hhp : a.hostport = h ++ ':' :: p)
    (hins : co.flag = false) (hest : out.est = true) :
    a.up = true ∧
    ∃ scfg peer, serverGetTlsConfig SA.Gen.serverAuthGuardErrNil a.so = .ok scfg ∧ scfg.certs.head? = some peer ∧
      X.chains (caPool co) peer = true ∧ X.validNow peer = true ∧ X.matchesName h peer = true := by
  rw [history_alone hr ha, alone_est, Bool.and_eq_true, hhp] at hest
  exact ⟨hest.1, C05_auth_sound X a.kind hk h p a.resolved hw co a.so hins hest.2⟩

/-- **completeness per attempt**: every attempt that is made — at any position of any history — to
    a reachable server whose certificate is acceptable for THIS upstream's host name (and whose own
    requirement on the client is met) is established -/
theorem C05_history_auth_complete (X : X509) (failover : Bool) (ss : List Step) (m : Mgr) (ts : List Ticket)
    (i : Nat) (out : Outcome) (co : Opts) (nm : Bool) (a : Attempt) (h p : Name) (hw : WfHostPort h p)
    (hr : (runHist X genFacts SA.Gen.getTlsConfigFreshPerCall failover ss m ts)[i]? = some (some out))
    (ha : ss[i]? = some ⟨co, nm, a⟩) (hk : a.kind ≠ .stdioTls) (hhp : a.hostport = h ++ ':' :: p) (hup : a.up = true)
    (ccfg scfg : TlsCfg) (peer : String)
    (hc : clientGetTlsConfig co = .ok ccfg) (hs : configGetTlsConfig a.so = .ok scfg)
    (hpeer : scfg.certs.head? = some peer)
    (hchain : X.chains (caPool co) peer = true) (hvalid : X.validNow peer = true)
    (hmatch : X.matchesName h peer = true)
    (hcli : a.so.flag = false ∨
      ∃ c, ccfg.certs.head? = some c ∧ X.chains (caPool a.so) c = true ∧ X.validNow c = true) :
    out.est = true := by
  rw [history_alone hr ha, alone_est, hup, Bool.true_and, hhp]
  exact C05_auth_complete X a.kind hk h p a.resolved hw co a.so ccfg scfg peer hc hs hpeer hchain hvalid hmatch hcli

/-! ## witnesses: the three defects of the code before the repairs (notes/C05.md, "Defects found"), kernel-checked on
    the model with the *other* value of the regenerated fact; each was reproduced on the real code -/

/-- with the inverted guard (`err != nil`, the code before the repair) a server with require-client-cert configured
    gets ClientAuth = NoClientCert … -/
theorem C05_witness_inverted_guard :
    ¬ (∀ o conf, serverGetTlsConfig false o = .ok conf → o.flag = true →
        conf.clientAuth = .requireAndVerifyClientCert) := by
  intro h
  have := h { flag := true } {} (by decide) rfl
  cases this

/-- … and admits a client that presents no certificate at all -/
theorem C05_witness_inverted_guard_admits :
    established refX509 { genFacts with guardErrNil := false } .startTls "server.test:4443".toList "server.test:4443".toList
      { ca := ⟨none, some (.cas ["A"])⟩ }
      (leafSrc "good" { ca := ⟨none, some (.cas ["A"])⟩, flag := true }) = true := by
  decide +kernel

/-- … and crashes when the configuration is unreadable -/
theorem C05_witness_inverted_guard_panics :
    serverGetTlsConfig false { ca := ⟨some none, none⟩, flag := true } = .panic := by decide

/-- with ServerName = cc.host (port included) the name handed to the verifier is not the host … -/
theorem C05_witness_port_in_name :
    startTlsName false "example.com:443".toList ≠ "example.com".toList := by decide +kernel

/-- … so a correctly certified server is refused on every StartTLS carrier -/
theorem C05_witness_port_in_name_refuses :
    established refX509 { genFacts with stripsPort := false } .startTls "server.test:4443".toList "server.test:4443".toList
      { ca := ⟨none, some (.cas ["A"])⟩ } (leafSrc "good" {}) = false := by
  decide +kernel

/-- when Socket.Connect leaves the name to tls.Dial, the resolved address is verified instead of
    the host name: a server certified for its DNS name only is refused -/
theorem C05_witness_resolved_name_refuses :
    established refX509 { genFacts with setsHostname := false } .socketTls "localhost:4443".toList "127.0.0.1:4443".toList
      { ca := ⟨none, some (.cas ["A"])⟩ } (leafSrc "nameonly" {}) = false := by
  decide +kernel

/-! ### what a manager that hands out the same object again would do (the other value of
    SA.Gen.getTlsConfigFreshPerCall; reproduced on the real code with such a manager, notes/C05.md) -/

/-- tcp+tls://localhost, up, presenting `backupCert` -/
def sharedWitnessBackup (backupCert : String) : Attempt :=
  { kind := .socketTls, hostport := "localhost:4443".toList, resolved := "127.0.0.1:4443".toList, up := true, so := leafSrc backupCert {} }

/-- the fail-over list [tcp+tls://127.0.0.1 (down), tcp+tls://localhost] -/
def sharedWitnessList (backupCert : String) : List Attempt :=
  [{ kind := .socketTls, hostport := "127.0.0.1:4443".toList, resolved := "127.0.0.1:4443".toList, up := false, so := leafSrc "good" {} },
   sharedWitnessBackup backupCert]

/-- the name of the first (failed) attempt sticks: a CA-signed certificate for 127.0.0.1 only is
    accepted for the upstream named `localhost` … -/
theorem C05_witness_shared_config_accepts_other_host :
    (runHist refX509 genFacts false true (stepsOf { ca := ⟨none, some (.cas ["A"])⟩ } (sharedWitnessList "iponly")) none []).map
        (Option.map (fun r => (r.est, r.cfg.map (·.serverName)))) =
      [some (false, some "127.0.0.1".toList), some (true, some "127.0.0.1".toList)] ∧
    (alone refX509 genFacts { ca := ⟨none, some (.cas ["A"])⟩ } (sharedWitnessBackup "iponly")).est = false := by
  decide +kernel

/-- … and the server properly certified for `localhost` is refused -/
theorem C05_witness_shared_config_refuses_certified :
    (runHist refX509 genFacts false true (stepsOf { ca := ⟨none, some (.cas ["A"])⟩ } (sharedWitnessList "nameonly")) none []).map
        (Option.map (·.est)) = [some false, some false] ∧
    (alone refX509 genFacts { ca := ⟨none, some (.cas ["A"])⟩ } (sharedWitnessBackup "nameonly")).est = true := by
  decide +kernel

/-- a stdin+tls attempt switches verification off for every later attempt: an untrusted server is accepted -/
theorem C05_witness_shared_config_stdio_leaks :
    (runHist refX509 genFacts false false (stepsOf { ca := ⟨none, some (.cas ["A"])⟩ }
        [{ kind := .stdioTls, hostport := [], resolved := [], up := true, so := leafSrc "good" {} },
         { kind := .startTls, hostport := "server.test:4443".toList, resolved := [], up := true, so := leafSrc "untrusted" {} }]) none []).map
        (Option.map (fun r => (r.est, r.cfg.map (·.insecureSkipVerify)))) =
      [some (true, some true), some (true, some true)] := by
  decide +kernel

/-! ### what a session cache that outlives the config would do (the other value of SA.Gen.clientSessionCacheShared;
    reproduced on the real code with `conf.ClientSessionCache = <package-level cache>` in ClientConfig.GetTlsConfig,
    notes/C05.md) -/

/-- the facts of the code, except that client configs carry one process-wide session cache -/
def cacheFacts : Facts := { genFacts with sessionCache := some 0 }

/-- tcp+tls://localhost reaching the server instance `inst` (certificate `good`, CA A, client certificate required or not) -/
def sameEndpoint (req : Bool) (inst : String) (k : Kind := .socketTls) : Attempt :=
  { kind := k, hostport := "localhost:4443".toList, resolved := "127.0.0.1:4443".toList, up := true,
    so := leafSrc "good" { ca := caSrcOf "A", flag := req }, inst := inst }

/-- (a) the trusted CA is replaced between connect and reconnect: the client configured with CA B only still
    completes a session with the server certified by CA A - alone it is refused; without such a cache it is refused
    in the history as well -/
theorem C05_witness_session_cache_replaced_ca :
    (runHist refX509 cacheFacts true false
        [⟨{ ca := caSrcOf "A" }, false, sameEndpoint false "s"⟩, ⟨{ ca := caSrcOf "B" }, false, sameEndpoint false "s"⟩] none []).map
        (Option.map (·.est)) = [some true, some true] ∧
    (alone refX509 cacheFacts { ca := caSrcOf "B" } (sameEndpoint false "s")).est = false ∧
    (runHist refX509 { genFacts with sessionCache := none } true false
        [⟨{ ca := caSrcOf "A" }, false, sameEndpoint false "s"⟩, ⟨{ ca := caSrcOf "B" }, false, sameEndpoint false "s"⟩] none []).map
        (Option.map (·.est)) = [some true, some false] := by
  decide +kernel

/-- (b) a second configuration object of the same process, configured with a foreign CA, gets in as well -/
theorem C05_witness_session_cache_second_object :
    (runHist refX509 cacheFacts true false
        [⟨{ ca := caSrcOf "A" }, true, sameEndpoint false "s"⟩, ⟨{ ca := caSrcOf "B" }, true, sameEndpoint false "s"⟩] none []).map
        (Option.map (·.est)) = [some true, some true] := by
  decide +kernel

/-- (c) a client without a certificate is admitted by a server that requires one, once a client of the same process
    holding a valid certificate was admitted -/
theorem C05_witness_session_cache_no_client_cert :
    (runHist refX509 cacheFacts true false
        [⟨leafSrc "cgood" { ca := caSrcOf "A" }, false, sameEndpoint true "s"⟩, ⟨{ ca := caSrcOf "A" }, false, sameEndpoint true "s"⟩] none []).map
        (Option.map (·.est)) = [some true, some true] ∧
    (alone refX509 cacheFacts { ca := caSrcOf "A" } (sameEndpoint true "s")).est = false := by
  decide +kernel

/-- … while the first connection of any configuration, a restarted server (new ticket keys), a StartTLS carrier
    (server config per connection) and the order insecure → verifying are decided afresh even with such a cache -/
theorem C05_witness_session_cache_limits :
    (runHist refX509 cacheFacts true false [⟨{ ca := caSrcOf "B" }, false, sameEndpoint false "s"⟩] none []).map
        (Option.map (·.est)) = [some false] ∧
    (runHist refX509 cacheFacts true false
        [⟨{ ca := caSrcOf "A" }, false, sameEndpoint false "s"⟩, ⟨{ ca := caSrcOf "B" }, false, sameEndpoint false "s'"⟩] none []).map
        (Option.map (·.est)) = [some true, some false] ∧
    (runHist refX509 cacheFacts true false
        [⟨{ ca := caSrcOf "A" }, false, sameEndpoint false "s" .startTls⟩, ⟨{ ca := caSrcOf "B" }, false, sameEndpoint false "s" .startTls⟩] none []).map
        (Option.map (·.est)) = [some true, some false] ∧
    (runHist refX509 cacheFacts true false
        [⟨{ ca := caSrcOf "B", flag := true }, false, sameEndpoint false "s"⟩, ⟨{ ca := caSrcOf "B" }, false, sameEndpoint false "s"⟩] none []).map
        (Option.map (·.est)) = [some true, some false] := by
  decide +kernel

-- the hypotheses of the theorems are satisfiable, and the conclusions are what the real code shows
example : WfHostPort "server.test".toList "4443".toList := by
  refine ⟨?_, by decide, by decide⟩
  intro c hc
  revert c
  decide

example : clientCfgFor SA.Gen.isvSites .startTls { ca := ⟨none, some (.cas ["A"])⟩, flag := true }
    = .ok { rootCAs := some ["A"], clientCAs := some ["A"], insecureSkipVerify := true } := by decide +kernel

example : serverGetTlsConfig SA.Gen.serverAuthGuardErrNil (leafSrc "good" { ca := ⟨none, some (.cas ["A"])⟩, flag := true })
    = .ok { certs := ["good"], rootCAs := some ["A"], clientCAs := some ["A"], clientAuth := .requireAndVerifyClientCert } := by
  decide

-- established and refused cells of the matrix (reference oracle)
example : established refX509 genFacts .startTls "server.test:4443".toList "server.test:4443".toList
    { ca := ⟨none, some (.cas ["A"])⟩ } (leafSrc "good" {}) = true := by decide +kernel
example : established refX509 genFacts .startTls "server.test:4443".toList "server.test:4443".toList
    { ca := ⟨none, some (.cas ["A"])⟩ } (leafSrc "untrusted" {}) = false := by decide +kernel
example : established refX509 genFacts .socketTls "localhost:4443".toList "127.0.0.1:4443".toList
    { ca := ⟨none, some (.cas ["A"])⟩ } (leafSrc "nameonly" {}) = true := by decide +kernel
example : established refX509 genFacts .startTls "server.test:4443".toList []
    { ca := ⟨none, some (.cas ["A"])⟩ } (leafSrc "good" { ca := ⟨none, some (.cas ["A"])⟩, flag := true }) = false := by decide +kernel
example : established refX509 genFacts .startTls "server.test:4443".toList []
    (leafSrc "cgood" { ca := ⟨none, some (.cas ["A"])⟩ }) (leafSrc "good" { ca := ⟨none, some (.cas ["A"])⟩, flag := true }) = true := by
  decide +kernel
example : established refX509 genFacts .startTls "server.test:4443".toList []
    (leafSrc "cforeign" { ca := ⟨none, some (.cas ["A"])⟩ }) (leafSrc "good" { ca := ⟨none, some (.cas ["A"])⟩, flag := true }) = false := by
  decide +kernel
-- histories: a fail-over walk that reaches the properly certified backup, one that refuses the
-- backup certified for another host, and a stdin+tls attempt that leaves a later verifying attempt alone
example : (runHist refX509 genFacts SA.Gen.getTlsConfigFreshPerCall true
    (stepsOf { ca := ⟨none, some (.cas ["A"])⟩ } (sharedWitnessList "nameonly")) none []).map (Option.map (·.est)) = [some false, some true] := by decide +kernel
example : (runHist refX509 genFacts SA.Gen.getTlsConfigFreshPerCall true
    (stepsOf { ca := ⟨none, some (.cas ["A"])⟩ } (sharedWitnessList "iponly")) none []).map (Option.map (·.est)) = [some false, some false] := by decide +kernel
example : (runHist refX509 genFacts SA.Gen.getTlsConfigFreshPerCall true
    (stepsOf { ca := ⟨none, some (.cas ["A"])⟩ } ((sharedWitnessList "good").reverse)) none []).map (Option.map (·.est)) = [some true, none] := by decide +kernel
example : (runHist refX509 genFacts SA.Gen.getTlsConfigFreshPerCall false (stepsOf { ca := ⟨none, some (.cas ["A"])⟩ }
    [{ kind := .stdioTls, hostport := [], resolved := [], up := true, so := leafSrc "good" {} },
     { kind := .startTls, hostport := "server.test:4443".toList, resolved := [], up := true, so := leafSrc "untrusted" {} }]) none []).map
    (Option.map (·.est)) = [some true, some false] := by decide +kernel
-- the same endpoint, configuration changed between the attempts (code's facts): CA A then B then A; certificate then none
example : (runHist refX509 genFacts SA.Gen.getTlsConfigFreshPerCall false
    [⟨{ ca := caSrcOf "A" }, false, sameEndpoint false "s"⟩, ⟨{ ca := caSrcOf "B" }, true, sameEndpoint false "s"⟩,
     ⟨{ ca := caSrcOf "A" }, false, sameEndpoint false "s"⟩] none []).map (Option.map (·.est)) = [some true, some false, some true] := by decide +kernel
example : (runHist refX509 genFacts SA.Gen.getTlsConfigFreshPerCall false
    [⟨leafSrc "cgood" { ca := caSrcOf "A" }, false, sameEndpoint true "s"⟩, ⟨{ ca := caSrcOf "A" }, false, sameEndpoint true "s"⟩] none []).map
    (Option.map (·.est)) = [some true, some false] := by decide +kernel
-- IPv6 literal in brackets
example : startTlsName SA.Gen.startTlsStripsPort "[2001:db8::1]:8443".toList = "2001:db8::1".toList := by decide +kernel
-- UDP: a protected endpoint and two clients
example : udpAdmits 32 32 (fun pw => some pw) (some [1, 2]) (some [1, 2]) = true := by decide
example : udpAdmits 32 32 (fun pw => some pw) (some [1, 2]) (some [1, 3]) = false := by decide
example : udpAdmits 32 32 (fun pw => some pw) (some [1, 2]) none = false := by decide

/-- what the source says today about the key handed to AES: `false` = the 64-byte key is rejected
    by aes.NewCipher, a password-protected UDP endpoint does not start on either side (fail-closed) -/
def C05_udp_protected_endpoint_can_start : Bool :=
  aesKeyOk SA.Gen.pbkdf2KeyLenServer && aesKeyOk SA.Gen.pbkdf2KeyLenClient

end SA.TlsConfig

#print axioms SA.TlsConfig.C05_isv_site_inventory
#print axioms SA.TlsConfig.C05_verify_on_unless_insecure
#print axioms SA.TlsConfig.C05_stdio_exception
#print axioms SA.TlsConfig.C05_root_pool_is_configured_ca
#print axioms SA.TlsConfig.C05_expected_name
#print axioms SA.TlsConfig.C05_expected_name_starttls
#print axioms SA.TlsConfig.C05_client_cert_required
#print axioms SA.TlsConfig.C05_server_config_panic_free
#print axioms SA.TlsConfig.C05_auth_sound
#print axioms SA.TlsConfig.C05_auth_sound_server
#print axioms SA.TlsConfig.C05_auth_complete
#print axioms SA.TlsConfig.C05_udp_secret_symmetric
#print axioms SA.TlsConfig.C05_udp_fail_closed
#print axioms SA.TlsConfig.C05_udp_admits_same_secret
#print axioms SA.TlsConfig.C05_witness_inverted_guard
#print axioms SA.TlsConfig.C05_witness_inverted_guard_admits
#print axioms SA.TlsConfig.C05_witness_inverted_guard_panics
#print axioms SA.TlsConfig.C05_witness_port_in_name
#print axioms SA.TlsConfig.C05_witness_port_in_name_refuses
#print axioms SA.TlsConfig.C05_witness_resolved_name_refuses
#print axioms SA.TlsConfig.C05_history_independent
#print axioms SA.TlsConfig.C05_history_seq
#print axioms SA.TlsConfig.C05_history_config
#print axioms SA.TlsConfig.C05_history_auth_sound
#print axioms SA.TlsConfig.C05_history_auth_complete
#print axioms SA.TlsConfig.C05_witness_shared_config_accepts_other_host
#print axioms SA.TlsConfig.C05_witness_shared_config_refuses_certified
#print axioms SA.TlsConfig.C05_witness_shared_config_stdio_leaks
#print axioms SA.TlsConfig.C05_verification_field_inventory
#print axioms SA.TlsConfig.C05_session_state_inventory
#print axioms SA.TlsConfig.C05_witness_session_cache_replaced_ca
#print axioms SA.TlsConfig.C05_witness_session_cache_second_object
#print axioms SA.TlsConfig.C05_witness_session_cache_no_client_cert
#print axioms SA.TlsConfig.C05_witness_session_cache_limits
#print axioms SA.TlsConfig.C05_no_verification_override
#print axioms SA.TlsConfig.C05_validity_boundary_table
#print axioms SA.TlsConfig.C05_auth_sound_any_host
#print axioms SA.TlsConfig.C05_port_only_refused
#print axioms SA.TlsConfig.C05_host_form_names
#print axioms SA.TlsConfig.C05_ca_pool_shape
#print axioms SA.TlsConfig.C05_ca_pool_exact
#print axioms SA.TlsConfig.C05_pools_exactly_configured
#print axioms SA.TlsConfig.C05_auth_sound_configured_anchor
#print axioms SA.TlsConfig.C05_auth_sound_server_configured_anchor
#print axioms SA.TlsConfig.C05_ref_oracle_anchored
#print axioms SA.TlsConfig.C05_system_anchor_table
#print axioms SA.TlsConfig.C05_witness_seeded_pool_accepts_foreign

namespace SA.PkgState
/-- **no_hidden_process_state**: the models of this property are functions of their arguments and of the objects they are
    handed; the packages they model keep no package-level variables besides these (regenerated inventory: error
    sentinels, tables, compiled patterns, the two session time-outs).  A new package-level variable — a counter, a cache, a
    scratch buffer, a shared map, a registry — would make later calls depend on earlier ones, or concurrent calls on each
    other, outside anything a per-call comparison of model and code can see. -/
theorem C05_no_hidden_process_state :
    Gen.pkgVarNames_cert = [] := rfl
end SA.PkgState

#print axioms SA.PkgState.C05_no_hidden_process_state
