/-
  C07 — DNS tunnel delivers every byte exactly once, in order.

  The statements of C07 and the notions they are stated in — the source facts the proofs rest on (`Cfg.Good`), the
  hypothesis on histories (`WellBounded`), safety for arbitrary source facts (`WrapStmt`) — first for the queue pair
  (model SA.Model.Queue: InQueue/OutQueue of internal/streams/dns/util/queue.go and the packet exchange of
  SendAndReceive / packet; invariant and preservation in SA.Proofs.Queue), then, each in the namespace of its model, for
  the retry loop (SA.DnsExchange, SA.DnsAnswers), for `Write` and the poll loop (SA.DnsWrites), for package state.

  Quantifiers: every pair of starting sequence numbers (one per direction), every fragment size
  mtu > 0, every history (of ANY length — in particular beyond 65536 packets per direction) of
  writes and reads at both ends and of exchanges with fate ∈ {delivered, query lost, answer lost,
  query duplicated (client gets the first / the second answer), an older query replayed}.

  Hypothesis `WellBounded` (decidable on the history): every Write is cut into at most `Bd` chunks,
  a replayed query is at most `K+1` exchanges old, and `Bd + K + MaxCachedChunks + 3 ≤ 65536`.
  With MaxCachedChunks = 128 this allows e.g. replays up to 60000 exchanges late and writes of up to
  5000 fragments.  The excluded point (a query replayed ≈ 65409 or more exchanges late aliases into
  the receiver's acceptance window) is inherent to 16-bit numbering; see notes/C07.md.
-/
import SA.Proofs.Queue
import SA.Proofs.QueueLive
import SA.Proofs.QueueWrap
import SA.Proofs.DnsWrites
import SA.Proofs.DnsPoll
import SA.Proofs.DnsExchange
import SA.Proofs.DnsAnswers
import SA.Gen.PkgVars
namespace SA.Queue

/-- the source facts the proofs rely on (all regenerated: SA.Gen.c07*) -/
def Cfg.Good (c : Cfg) : Prop :=
  c.outTrim = 1 ∧ c.wlo = 1 ∧ c.whi = c.max ∧ c.ackOff = 1 ∧ 1 ≤ c.max

instance (c : Cfg) : Decidable c.Good := by unfold Cfg.Good; infer_instance

/-- the current tree: cleanAckedChunks keeps the NEWEST MaxCachedChunks acks, window loop
    next+1 … next+Max-1, ack = NextSeqNo-1.  Fails to compile when a regenerated fact changes. -/
theorem Cfg.gen_good : Cfg.gen.Good :=
  ⟨Cfg.gen_outTrim, Cfg.gen_wlo, Cfg.gen_whi.trans Cfg.gen_max.symm, Cfg.gen_ackOff, by decide⟩

/-- explicit, decidable well-boundedness of a history -/
def WellBounded (c : Cfg) (mtu K Bd : Nat) (evs : List Ev) : Prop :=
  0 < mtu ∧ Bd + K + c.max + 3 ≤ MOD ∧ evs.all (evOk mtu K Bd) = true

instance (c : Cfg) (mtu K Bd : Nat) (evs : List Ev) : Decidable (WellBounded c mtu K Bd evs) := by
  unfold WellBounded; infer_instance

theorem reach_inv {c : Cfg} (hg : c.Good) {sab sba mtu K Bd : Nat} {evs : List Ev}
    (hsab : sab < MOD) (hsba : sba < MOD) (h : WellBounded c mtu K Bd evs) :
    SysInv c sab sba K Bd (runS c mtu (init sab sba) evs) :=
  have ⟨htrim, hwlo, hwhi, hack, hmax⟩ := hg
  have ⟨hmtu, hroom, hevs⟩ := h
  -- a query replayed `K` exchanges late is a message `K + 1` steps of A old (`SysInv.hist`), so the links are kept at
  -- age `A = K + 1`: that is one of the `+ 3` of `WellBounded`, the `+ 2` of `Consts.bound` are the other two
  have hc : Consts c (K + 1) Bd := ⟨htrim, hwlo, hwhi, hack, hmax, show Bd + (K + 1) + c.max + 2 ≤ MOD by omega⟩
  run_inv hmtu (init_inv hc hsab hsba) evs hevs

/-- the statement of safety + "a drained out-queue means delivered", for a given set of source facts -/
def WrapStmt (c : Cfg) : Prop :=
  ∀ (sab sba mtu K Bd : Nat) (evs : List Ev), sab < MOD → sba < MOD → WellBounded c mtu K Bd evs →
    let st := runS c mtu (init sab sba) evs
    st.b.inq.rel <+: st.a.acc ∧ st.a.inq.rel <+: st.b.acc ∧
    (st.a.outq.out = [] → st.b.inq.rel = st.a.acc) ∧ (st.b.outq.out = [] → st.a.inq.rel = st.b.acc)

/-- safety and "a drained out-queue means delivered" (`Joined.safe`, `Joined.drained`) hold for every set of source
    facts that is `Good`, whatever `MaxCachedChunks` and the in-queue trimming are -/
theorem wrap_of_good {c : Cfg} (hg : c.Good) : WrapStmt c := by
  intro sab sba mtu K Bd evs hsab hsba h
  have inv := reach_inv hg hsab hsba h
  exact ⟨inv.safe.1, inv.safe.2, inv.drained.1, inv.drained.2⟩

/-- **safety**: whatever the history, the bytes released to the reader at either end are a prefix of
    the bytes accepted by the peer's writes — no gap, repeat or reordering. -/
theorem C07_safety (sab sba mtu K Bd : Nat) (evs : List Ev) (hsab : sab < MOD) (hsba : sba < MOD)
    (h : WellBounded Cfg.gen mtu K Bd evs) :
    (runS Cfg.gen mtu (init sab sba) evs).b.inq.rel <+: (runS Cfg.gen mtu (init sab sba) evs).a.acc ∧
    (runS Cfg.gen mtu (init sab sba) evs).a.inq.rel <+: (runS Cfg.gen mtu (init sab sba) evs).b.acc := by
  exact (reach_inv Cfg.gen_good hsab hsba h).safe

/-- **write_ok_delivered**: `OutQueue.Write` returns success only once `out` is empty; in every
    reachable state with an empty `out`, every byte accepted so far has been released at the peer. -/
theorem C07_write_ok_delivered (sab sba mtu K Bd : Nat) (evs : List Ev) (hsab : sab < MOD)
    (hsba : sba < MOD) (h : WellBounded Cfg.gen mtu K Bd evs) :
    ((runS Cfg.gen mtu (init sab sba) evs).a.outq.out = [] →
      (runS Cfg.gen mtu (init sab sba) evs).b.inq.rel = (runS Cfg.gen mtu (init sab sba) evs).a.acc) ∧
    ((runS Cfg.gen mtu (init sab sba) evs).b.outq.out = [] →
      (runS Cfg.gen mtu (init sab sba) evs).a.inq.rel = (runS Cfg.gen mtu (init sab sba) evs).b.acc) := by
  exact (reach_inv Cfg.gen_good hsab hsba h).drained

/-- **wrap**: the same two facts with the history length unbounded — there is no hypothesis on the
    number of packets, so histories that cross the 16-bit wrap any number of times are covered.
    Holds for the regenerated source facts (keep-newest trimming). -/
theorem C07_wrap : WrapStmt Cfg.gen := wrap_of_good Cfg.gen_good

/-- a concrete well-bounded history with every fate (K = 60000, Bd = 5000) -/
example : WellBounded Cfg.gen 2 60000 5000
    [.write false [1, 2, 3], .xchg .ql, .xchg .d, .xchg (.rp 1), .write true [9], .xchg .al,
     .xchg .dup1, .xchg .dup2, .read true 2, .xchg (.rp 60000), .xchg .d] := by decide

theorem rounds_wb {c : Cfg} (hc : c.max + 4 ≤ MOD) (n : Nat) : WellBounded c 1 0 1 (rounds n) :=
  ⟨by decide, by omega, rounds_all_evOk n⟩

/-- histories of any length are well-bounded: 70000 rounds of (write one byte, delivered exchange) -/
example : WellBounded Cfg.gen 1 0 1 ((List.replicate 70000 [Ev.write false [7], Ev.xchg .d]).flatten) :=
  rounds_wb (by decide) 70000

/-- forged packets are outside the hypothesis -/
example : ¬ WellBounded Cfg.gen 1 10 10 [.inject true 5 [1]] := by decide

/-! ## Eventual delivery: once the path stops losing, everything accepted arrives -/

/-- regenerated fact the liveness proof needs in addition to `Cfg.gen_good`: the receiver's duplicate
    cache is trimmed with `acked = acked[1:]` (it keeps the newest numbers, in particular the last one
    released).  Fails to compile when the regenerated fact changes. -/
theorem Cfg.gen_live : Cfg.gen.inTrim = 2 := Cfg.gen_inTrim

/-- **eventual delivery over a lossy continuation**: the delivered exchanges need not be consecutive.
    After ANY well-bounded history, let `tl` be any write-free continuation — exchanges of every fate
    (query lost, answer lost, duplicated, replays at most `K` old) and reads, in any order.  As soon as
    `tl` contains `n ≥ |A.out|`, `n ≥ |B.out| + 1` delivered exchanges (`countP isD`), both out-queues are
    empty afterwards and released = accepted in both directions: losses in between never undo progress
    (every fate only moves indices forward: `Adv` in `xchg_inv`; hence `nuB_mono`). -/
theorem C07_eventual_delivery_lossy (sab sba mtu K Bd : Nat) (evs tl : List Ev) (hsab : sab < MOD)
    (hsba : sba < MOD) (h : WellBounded Cfg.gen mtu K Bd evs) (htl : tl.all (tailOk K) = true)
    (hna : (runS Cfg.gen mtu (init sab sba) evs).a.outq.out.length ≤ tl.countP isD)
    (hnb : (runS Cfg.gen mtu (init sab sba) evs).b.outq.out.length + 1 ≤ tl.countP isD) :
    (runS Cfg.gen mtu (runS Cfg.gen mtu (init sab sba) evs) tl).a.outq.out = [] ∧
    (runS Cfg.gen mtu (runS Cfg.gen mtu (init sab sba) evs) tl).b.outq.out = [] ∧
    (runS Cfg.gen mtu (runS Cfg.gen mtu (init sab sba) evs) tl).a.acc
      = (runS Cfg.gen mtu (init sab sba) evs).a.acc ∧
    (runS Cfg.gen mtu (runS Cfg.gen mtu (init sab sba) evs) tl).b.acc
      = (runS Cfg.gen mtu (init sab sba) evs).b.acc ∧
    (runS Cfg.gen mtu (runS Cfg.gen mtu (init sab sba) evs) tl).b.inq.rel
      = (runS Cfg.gen mtu (init sab sba) evs).a.acc ∧
    (runS Cfg.gen mtu (runS Cfg.gen mtu (init sab sba) evs) tl).a.inq.rel
      = (runS Cfg.gen mtu (init sab sba) evs).b.acc :=
  have d := lossy_tail_drains h.1 Cfg.gen_live (reach_inv Cfg.gen_good hsab hsba h) htl hna hnb
  ⟨d.aout, d.bout, d.aacc, d.bacc, d.brel, d.arel⟩

/-- **eventual delivery** (the case `tl = tail n` of the theorem above): take the state `st` after ANY well-bounded
    history (losses, duplicates, replays, queued and half-acknowledged chunks in both directions) and let `n`
    consecutive exchanges be delivered (`tail n`; an exchange in which A has nothing to send is a poll).  If
    `n ≥ |A.out|` and `n ≥ |B.out| + 1` — in particular if `n ≥ |A.out| + |B.out| + 1` — then afterwards
    both out-queues are empty, nothing further was accepted, and each end has released exactly the bytes
    the other end's writes accepted.
    (`|B.out| + 1`: B's chunk travels in an answer and its acknowledgement only in the *next* query.) -/
theorem C07_eventual_delivery (sab sba mtu K Bd : Nat) (evs : List Ev) (hsab : sab < MOD) (hsba : sba < MOD)
    (h : WellBounded Cfg.gen mtu K Bd evs) (n : Nat)
    (hna : (runS Cfg.gen mtu (init sab sba) evs).a.outq.out.length ≤ n)
    (hnb : (runS Cfg.gen mtu (init sab sba) evs).b.outq.out.length + 1 ≤ n) :
    (runS Cfg.gen mtu (runS Cfg.gen mtu (init sab sba) evs) (tail n)).a.outq.out = [] ∧
    (runS Cfg.gen mtu (runS Cfg.gen mtu (init sab sba) evs) (tail n)).b.outq.out = [] ∧
    (runS Cfg.gen mtu (runS Cfg.gen mtu (init sab sba) evs) (tail n)).a.acc
      = (runS Cfg.gen mtu (init sab sba) evs).a.acc ∧
    (runS Cfg.gen mtu (runS Cfg.gen mtu (init sab sba) evs) (tail n)).b.acc
      = (runS Cfg.gen mtu (init sab sba) evs).b.acc ∧
    (runS Cfg.gen mtu (runS Cfg.gen mtu (init sab sba) evs) (tail n)).b.inq.rel
      = (runS Cfg.gen mtu (init sab sba) evs).a.acc ∧
    (runS Cfg.gen mtu (runS Cfg.gen mtu (init sab sba) evs) (tail n)).a.inq.rel
      = (runS Cfg.gen mtu (init sab sba) evs).b.acc :=
  C07_eventual_delivery_lossy sab sba mtu K Bd evs (tail n) hsab hsba h (tail_all_tailOk K n) (by rw [tail_count]; exact hna)
    (by rw [tail_count]; exact hnb)

/-- the bound of the brief: `|A.out| + |B.out| + 1` delivered exchanges are enough -/
example (sab sba mtu K Bd : Nat) (evs : List Ev) (hsab : sab < MOD) (hsba : sba < MOD)
    (h : WellBounded Cfg.gen mtu K Bd evs) (n : Nat)
    (hn : (runS Cfg.gen mtu (init sab sba) evs).a.outq.out.length
        + (runS Cfg.gen mtu (init sab sba) evs).b.outq.out.length + 1 ≤ n) :
    (runS Cfg.gen mtu (runS Cfg.gen mtu (init sab sba) evs) (tail n)).b.inq.rel
      = (runS Cfg.gen mtu (init sab sba) evs).a.acc :=
  have ⟨_, _, _, _, brel, _⟩ := C07_eventual_delivery sab sba mtu K Bd evs hsab hsba h n (by omega) (by omega)
  brel

/-- non-vacuity: a continuation with every fate and reads between its three delivered exchanges -/
example : let tl : List Ev := [.xchg .ql, .xchg .d, .xchg .al, .read true 1, .xchg .dup2, .xchg .d, .xchg (.rp 3),
                               .read false 5, .xchg .dup1, .xchg .d]
    tl.all (tailOk 5) = true ∧ tl.countP isD = 3 := by decide

/-- all hypotheses hold together on a concrete history (two chunks queued at each end, start numbers
    65535 / 7, so the tail crosses the wrap) -/
example := C07_eventual_delivery_lossy 65535 7 1 5 2
  [.write false [1, 2], .write true [8, 9], .xchg .ql, .xchg .al]
  [.xchg .ql, .xchg .d, .xchg .al, .read true 1, .xchg .dup2, .xchg .d, .xchg (.rp 3), .read false 5,
   .xchg .dup1, .xchg .d]
  (by decide) (by decide) (by decide) (by decide) (by decide +kernel) (by decide +kernel)

example := C07_eventual_delivery 65535 7 1 5 2
  [.write false [1, 2], .write true [8, 9], .xchg .ql, .xchg .al] (by decide) (by decide) (by decide) 3
  (by decide +kernel) (by decide +kernel)

/-- one delivered exchange makes progress from every reachable state: the head of a non-empty `A.out`
    is delivered, acknowledged and removed; the variant of `B.out` (`nuB` = its length, plus one while A
    has not released its head) decreases -/
theorem C07_delivered_exchange_progress (sab sba mtu K Bd : Nat) (evs : List Ev) (hsab : sab < MOD)
    (hsba : sba < MOD) (h : WellBounded Cfg.gen mtu K Bd evs) :
    (xchgS Cfg.gen (runS Cfg.gen mtu (init sab sba) evs) .d).a.outq.out.length
      = (runS Cfg.gen mtu (init sab sba) evs).a.outq.out.length - 1 ∧
    nuB (xchgS Cfg.gen (runS Cfg.gen mtu (init sab sba) evs) .d)
      ≤ nuB (runS Cfg.gen mtu (init sab sba) evs) - 1 :=
  d_progress Cfg.gen_live (reach_inv Cfg.gen_good hsab hsba h)

/-! non-vacuity and tightness: two chunks queued at each end after a lost query and a lost answer;
    `max 2 (2+1) = 3` delivered exchanges drain everything, two do not. -/
example : WellBounded Cfg.gen 1 0 2 [.write false [1, 2], .write true [8, 9], .xchg .ql, .xchg .al] := by decide

example :
    let st := runS Cfg.gen 1 (init 65535 7) [.write false [1, 2], .write true [8, 9], .xchg .ql, .xchg .al]
    st.a.outq.out.length = 2 ∧ st.b.outq.out.length = 2 ∧
    (runS Cfg.gen 1 st (tail 2)).b.outq.out ≠ [] ∧
    (runS Cfg.gen 1 st (tail 3)).b.outq.out = [] ∧ (runS Cfg.gen 1 st (tail 3)).a.inq.rel = [8, 9] ∧
    (runS Cfg.gen 1 st (tail 3)).b.inq.rel = [1, 2] := by
  decide +kernel

/-! ## The trimming the tree had before the repair loses data at the 16-bit wrap -/

/-- **witness (keep-oldest trimming)**: with `q.acked = q.acked[0:MaxCachedChunks]` in
    `cleanAckedChunks` (fact value 0; all other facts as regenerated today), for EVERY pair of starting
    sequence numbers, the stop-and-wait run "write one byte, one delivered exchange" — a well-bounded
    history without a single loss — reaches after `65536 + j` rounds (`1 ≤ j ≤ 128`) a state in which A's
    out-queue is empty (every `Write` returned success), `65536 + j` bytes were accepted and B has released
    only `65536`: the chunks of rounds 65536 … 65536+j-1 were dropped from `out` unsent.
    Proved through the inductive characterisation `Ph` of the run (SA.Proofs.QueueWrap: A's cache is
    the first min(k,128) numbers ever acknowledged), not by evaluating 65537 rounds. -/
theorem C07_witness_wrap (s sba j : Nat) (hs : s < MOD) (hj : j ≤ 128) :
    WellBounded Cfg.keepOldest 1 0 1 (rounds (65536 + j)) ∧
    (runS Cfg.keepOldest 1 (init s sba) (rounds (65536 + j))).a.outq.out = [] ∧
    (runS Cfg.keepOldest 1 (init s sba) (rounds (65536 + j))).b.inq.rel.length = 65536 ∧
    (runS Cfg.keepOldest 1 (init s sba) (rounds (65536 + j))).a.acc.length = 65536 + j :=
  have h := wrap_state (sba := sba) hs (65536 + j) (by omega)
  have hm : min (65536 + j) 65536 = 65536 := by omega
  ⟨rounds_wb (by decide) _, h.aout, by unfold InQ.rel; rw [h.b.rel, hm]; exact length_flatten_reverse_replicate _ _,
    by unfold End.acc; rw [h.aacc]; exact length_flatten_reverse_replicate _ _⟩

/-- hence the statement proved for the current tree (`C07_wrap : WrapStmt Cfg.gen`) is false for the
    facts of the tree before the repair -/
theorem C07_witness_wrap_stmt : ¬ WrapStmt Cfg.keepOldest := by
  intro hw
  obtain ⟨hwb, h0, h1, h2⟩ := C07_witness_wrap 0 0 1 (by decide) (by decide)
  obtain ⟨-, -, drained, -⟩ := hw 0 0 1 0 1 _ (by decide) (by decide) hwb
  rw [drained h0] at h1
  omega

/-- the invariant behind it: from round 128 on (up to the end of the dropping phase) A's ack cache
    `out.acked` is frozen at the first 128 sequence numbers ever acknowledged, `s, s+1, …, s+127 (mod 2^16)` —
    every later acknowledgement is appended and cut off again by `acked[0:128]` -/
theorem C07_witness_wrap_cache (s sba n : Nat) (hs : s < MOD) (h1 : 128 ≤ n) (h2 : n ≤ 65536 + 128) :
    (runS Cfg.keepOldest 1 (init s sba) (rounds n)).a.outq.acked = (List.range' 0 128).map (seqOf s) := by
  rw [(wrap_state (sba := sba) hs n h2).aack, Nat.min_eq_right h1]

example := C07_witness_wrap 65535 0 128 (by decide) (by decide)
example := C07_witness_wrap_cache 65000 3 65537 (by decide) (by decide) (by decide)

/-- contrast (non-vacuity of the run): the same rounds with the current facts never lose anything,
    for any number of rounds -/
example (s sba n : Nat) (hs : s < MOD) (hsba : sba < MOD) :
    (runS Cfg.gen 1 (init s sba) (rounds n)).a.outq.out = [] →
    (runS Cfg.gen 1 (init s sba) (rounds n)).b.inq.rel = (runS Cfg.gen 1 (init s sba) (rounds n)).a.acc :=
  (C07_write_ok_delivered s sba 1 0 1 (rounds n) hs hsba (rounds_wb (by decide) n)).1

/-! ## The acceptance-window loop as the code runs it -/

/-- `InQ.append` runs the loop of `InQueue.Append` (`for i := next+Lo; i != next+Hi; i++`, a uint16
    counter); for every loop bounds and all uint16 arguments it computes the closed form `inWindow` -/
theorem C07_window_loop (c : Cfg) (next seq : Nat) (hseq : seq < MOD) :
    inWindowL c next seq = inWindow c next seq := inWindowL_eq c hseq

example : inWindowL Cfg.gen 65500 91 = true ∧ inWindowL Cfg.gen 65500 92 = false ∧
    inWindowL Cfg.gen 65500 65500 = false ∧ inWindowL Cfg.gen 65500 65501 = true := by decide +kernel

/-- the window loop with the regenerated bounds written out (`Cfg.gen.wlo` is 1 and `Cfg.gen.whi` is 128 by
    definition: the statements below are this one) -/
theorem gen_window {next seq : Nat} (hn : next < MOD) (hs : seq < MOD) :
    inWindowL Cfg.gen next seq = true ↔ (1 ≤ (seq + MOD - next) % MOD ∧ (seq + MOD - next) % MOD < 128) := by
  rw [inWindowL_eq Cfg.gen hs]
  exact inWindow_iff rfl rfl (by decide) (by decide) hn hs

/-- **the window test refuses every number outside the window** (the loop as written, regenerated bounds): a packet is
    let through exactly when its distance ahead of the expected one, modulo 2^16, is at least `Lo` and less than `Hi`
    (1 … 127) -/
theorem C07_window_accepts_iff (next seq : Nat) (hn : next < MOD) (hs : seq < MOD) :
    inWindowL Cfg.gen next seq = true ↔
      (Cfg.gen.wlo ≤ (seq + MOD - next) % MOD ∧ (seq + MOD - next) % MOD < Cfg.gen.whi) :=
  gen_window hn hs

/-- … the closed form says the same -/
theorem C07_window_closed_form_iff (next seq : Nat) (hn : next < MOD) (hs : seq < MOD) :
    inWindow Cfg.gen next seq = true ↔
      (Cfg.gen.wlo ≤ (seq + MOD - next) % MOD ∧ (seq + MOD - next) % MOD < Cfg.gen.whi) := by
  rw [← C07_window_loop Cfg.gen next seq hs]; exact C07_window_accepts_iff next seq hn hs

/-- **packets from the past are refused by the window test**: `behind` = how many packets before the expected one;
    everything from 1 behind up to 2^16 − Hi behind (where 16-bit aliasing starts: the open finding C07-late-replay) fails
    the loop -/
theorem C07_window_refuses_behind (next seq : Nat) (hn : next < MOD) (hs : seq < MOD)
    (hb : 1 ≤ (next + MOD - seq) % MOD) (hb' : (next + MOD - seq) % MOD ≤ MOD - Cfg.gen.whi) :
    inWindowL Cfg.gen next seq = false := by
  have hb' : (next + MOD - seq) % MOD ≤ MOD - 128 := hb'
  cases hw : inWindowL Cfg.gen next seq with
  | false => rfl
  | true => have := (gen_window hn hs).mp hw; omega

/-- … and `InQueue.Append` then returns ErrInvalidSequenceNumber and leaves the queue as it was (nothing parked in
    `future`, nothing recorded in `acked`), unless the duplicate cache still knows the packet (then it is ignored) -/
theorem C07_stale_packet_refused (q : InQ) (p : Pkt) (hn : q.next < MOD) (hs : p.seq < MOD) (hna : p.seq ∉ q.acked)
    (hb : 1 ≤ (q.next + MOD - p.seq) % MOD) (hb' : (q.next + MOD - p.seq) % MOD ≤ MOD - Cfg.gen.whi) :
    InQ.append Cfg.gen q (some p) = (q, false) := by
  have hne : p.seq ≠ q.next := by
    intro h; rw [h] at hb; omega
  rw [InQ.append_far hna hne, C07_window_refuses_behind q.next p.seq hn hs hb hb']
  rfl

/-- out of order and not a known duplicate: `Append` parks the packet in the reorder buffer (and records it) exactly when
    it is 1 … 127 ahead of the expected one, and refuses it, changing nothing, otherwise — so the reorder buffer only ever
    receives packets of the window ahead -/
theorem C07_parked_iff_window (q : InQ) (p : Pkt) (hn : q.next < MOD) (hs : p.seq < MOD) (hna : p.seq ∉ q.acked)
    (hne : p.seq ≠ q.next) :
    InQ.append Cfg.gen q (some p) =
      if 1 ≤ (p.seq + MOD - q.next) % MOD ∧ (p.seq + MOD - q.next) % MOD < 128
      then ({ q with future := q.future ++ [p], acked := q.acked ++ [p.seq] }, true) else (q, false) := by
  rw [InQ.append_far hna hne]
  exact ite_congr (propext (gen_window hn hs)) (fun _ => rfl) (fun _ => rfl)

/-- the comparison `int16(seq − next) ≥ MaxCachedChunks ⇒ refuse` (distance taken as a signed 16-bit number) -/
def int16AheadAccepts (max next seq : Nat) : Bool :=
  let d := (seq + MOD - next) % MOD
  let signed : Int := if d < 32768 then (d : Int) else (d : Int) - 65536
  decide (signed < (max : Int))

/-- **witness for the signed comparison** (kernel-checked): it bounds only how far AHEAD a packet may be.  The packet
    200 behind (#800 while #1000 is expected), 129 behind, and 30000 behind pass it, while the loop refuses all three;
    ahead of the expected packet the two agree on both sides of the window's end. -/
theorem C07_witness_int16_window :
    int16AheadAccepts Cfg.gen.max 1000 800 = true ∧ inWindowL Cfg.gen 1000 800 = false ∧
    int16AheadAccepts Cfg.gen.max 1000 871 = true ∧ inWindowL Cfg.gen 1000 871 = false ∧
    int16AheadAccepts Cfg.gen.max 100 35636 = true ∧ inWindowL Cfg.gen 100 35636 = false ∧
    int16AheadAccepts Cfg.gen.max 1000 1127 = true ∧ inWindowL Cfg.gen 1000 1127 = true ∧
    int16AheadAccepts Cfg.gen.max 1000 1128 = false ∧ inWindowL Cfg.gen 1000 1128 = false := by decide +kernel

example : inWindowL Cfg.gen 5 65413 = false ∧ inWindowL Cfg.gen 5 4 = false ∧ inWindowL Cfg.gen 5 132 = true := by
  decide +kernel   -- 128 behind, 1 behind: refused; 65409 behind = 127 ahead: aliases into the window (C07-late-replay)

end SA.Queue

namespace SA.DnsExchange

/-- **loss_absorbed**: with the regenerated facts (5 tries, timeouts recognised through the wrapping),
    up to 4 consecutive lost exchanges of any kind followed by a delivered one are absorbed by
    retransmission: SendAndReceive (hence Write) succeeds after k+1 queries and the fragment is delivered. -/
theorem C07_loss_absorbed (fs : List Fate) (k : Nat) (hk : k ≤ 4) (hlen : k ≤ fs.length)
    (hloss : ∀ f ∈ fs.take k, f.isLoss = true) (hok : fs[k]? = none ∨ fs[k]? = some .ok) :
    sendAndReceive Gen.c07TimeoutTest Gen.c07Tries fs = ⟨k + 1, true, true⟩ := by
  -- the regenerated facts are `1` and `5` by definition
  show loop 1 5 fs 0 false = _
  rw [loop_absorbs rfl k fs 5 0 false (by omega) hlen hloss hok, Nat.zero_add]

/-- kernel-checked counter-example for the comparison the tree had before the repair
    (`err == smux.ErrTimeout`, fact value 0): one lost query fails the Write at the first try. -/
theorem C07_witness_loss_not_absorbed :
    sendAndReceive 0 5 [.ql, .ok] = ⟨1, false, false⟩ ∧ sendAndReceive 0 5 [.al, .ok] = ⟨1, false, true⟩ := by
  decide

example : sendAndReceive Gen.c07TimeoutTest Gen.c07Tries [.ql, .al, .st, .ql, .ok] = ⟨5, true, true⟩ := by decide
example : (sendAndReceive Gen.c07TimeoutTest Gen.c07Tries [.ql, .al, .st, .ql, .al, .ok]).ok = false := by decide

end SA.DnsExchange

namespace SA.DnsAnswers

/-! ## Which answer the client takes (late answers, answers to an earlier retransmission, copies, foreign ids)

  Model: SA.Model.DnsAnswers — answers have an identity (the send they answer); the path may deliver the answer to
  send i in reply to send j > i (`late<j-i>` at i), deliver a second copy (`dup`), rewrite the id (`fid`).
  `sees filter fs j` is what the communicator hands to `QueryWithData` at send j (`filter` = miekg's UDP client, which
  skips datagrams with another id), `loopA` the retry loop of `SendAndReceive`, `writeA` a whole `Write`. -/

/-- regenerated fact (`SA.Gen.c07AnswerIdChecks`): nothing in QueryWithData / Query / SendAndReceive looks at which answer
    the communicator handed up — the returned message goes whole to `DecodeDnsResponseWithParams` and no comparison involves
    a message id, the ring `dc.chunkId`, a question or a name.  Fails to compile when such a test appears. -/
theorem C07_answer_ids_unchecked : Gen.c07AnswerIdChecks = [] ∧ ringGen = none := by decide

/-- **late_absorbed** (extends `C07_loss_absorbed` to answers with an identity): for the retry loop of `SendAndReceive` with the
    regenerated facts, from ANY send index `j` of ANY fate script, over either kind of communicator: if the client sees
    `k ≤ 4` timeouts and then an answer — on time, or `1, 2, 3, …` exchanges late, the answer to ANY earlier send (`o` is
    arbitrary), a second copy, an answer whose id was rewritten — the loop returns nil after `k+1` sends with that answer
    accepted.  No answer is turned into an error because of what it answers. -/
theorem C07_late_absorbed (filter : Bool) (fs : List AFate) (j k : Nat) (o : Option Nat) (hk : k ≤ 4)
    (hloss : ∀ i, i < k → sees filter fs (j + i) = .tmo) (hans : sees filter fs (j + k) = .ans o) :
    loopA (P.gen filter) fs Gen.c07Tries j = (j + k + 1, .got o) :=
  loopA_absorbs (P.gen filter) rfl rfl fs k 5 j o (by omega) hloss hans

/-- a delivered answer always answers a query the server has handled (this send's, or an earlier one's) -/
theorem C07_answer_means_handled (filter : Bool) (fs : List AFate) (j : Nat) (o : Option Nat)
    (h : sees filter fs j = .ans o) :
    ∃ i, i ≤ j ∧ (fateAt fs i).handled = true ∧ (o = some i ∨ (o = none ∧ i = j)) := by
  rcases sees_ans h with ⟨i, hi, hdue, ho⟩ | ⟨hh, ho | ho⟩
  · exact ⟨i, Nat.le_of_lt hi, dueAt_handled hdue, Or.inl ho⟩
  · exact ⟨j, Nat.le_refl _, hh, Or.inl ho⟩
  · exact ⟨j, Nat.le_refl _, hh, Or.inr ⟨ho, rfl⟩⟩

/-- **late_write_absorbed** (extends `C07_write_reports_enqueued`' s accounting to the late fates, for a Write of one fragment):
    for every fate script in which the fragment's first send is followed, within the five tries, by SOME delivered answer —
    to that send or to any of its retransmissions, however late, copied or re-labelled — after nothing but timeouts,
    `Write` returns `(len(b), nil)` after `k+1` sends and the server end holds the fragment: the isolated faults are absorbed
    and what Write reports is what the peer delivers.  Both for the communicator that hands up whatever arrives and for
    miekg's UDP client. -/
theorem C07_late_write_absorbed (filter : Bool) (mtu : Nat) (data : List Nat) (fs : List AFate) (k : Nat) (o : Option Nat)
    (hd : data ≠ []) (hm : data.length ≤ mtu) (hk : k ≤ 4)
    (hloss : ∀ i, i < k → sees filter fs i = .tmo) (hans : sees filter fs k = .ans o) :
    writeA (P.gen filter) mtu data fs = ({ j := k + 1, srv := 1, hist := List.replicate (k + 1) 0 }, data.length, true) := by
  have hl : loopA (P.gen filter) fs Gen.c07Tries 0 = (k + 1, .got o) := by
    rw [C07_late_absorbed filter fs 0 k o hk (by simpa using hloss) (by simpa using hans), Nat.zero_add]
  obtain ⟨i, hi, hh, ho⟩ := C07_answer_means_handled filter fs k o hans
  exact writeA_single hd hm hl (anyHandled_of fs 0 (k + 1) i (Nat.zero_le _) (by omega) hh)
    (acks_replicate fun i' hi' => by
      -- the answer names a send `i ≤ k`, or none
      rcases ho with rfl | ⟨rfl, -⟩
      · cases hi'; omega
      · cases hi')

/-- the regenerated loop with iodine's rule above the communicator: the answer's id must be one of the last three query ids -/
def P.ring3 : P := { P.gen false with ring := some 3 }

/-- kernel-checked counter-example for iodine's id ring of size 3 placed above the communicator (`ring = some 3`; the
    model's retry loop otherwise as regenerated): the answer to the first send arrives in reply to the fourth (`late3`,
    the two retransmissions in between unanswered) — the Write fails although the server end holds the fragment
    (`srv = 1`) and that very answer acknowledges it.  Two exchanges late is still inside the ring; a rewritten id
    fails at once.  Reproduces on the real code with that check in QueryWithData (`dnsretry a1b2c3 ids mtu=8 late3 ql ql ql`). -/
theorem C07_witness_id_ring :
    writeA P.ring3 8 [161, 178, 195] [.late 3, .ql, .ql, .ql] = ({ j := 4, srv := 1, hist := [0, 0, 0, 0] }, 3, false) ∧
    (writeA P.ring3 8 [161, 178, 195] [.late 2, .ql, .ql]).2.2 = true ∧
    (writeA P.ring3 8 [161, 178, 195] [.fid]).2.2 = false ∧
    (writeA (P.gen false) 8 [161, 178, 195] [.late 3, .ql, .ql, .ql]).2.2 = true := by
  decide

example : sees false [.late 3, .ql, .ql, .ql] 3 = .ans (some 0) := by decide
example : sees true [.late 3, .ql, .ql, .ql] 3 = .tmo := by decide
example : writeA (P.gen false) 8 [1, 2, 3] [.late 3, .ql, .ql, .ql] = ({ j := 4, srv := 1, hist := [0, 0, 0, 0] }, 3, true) :=
  C07_late_write_absorbed false 8 [1, 2, 3] _ 3 (some 0) (by decide) (by decide) (by decide) (by decide) (by decide)
example : (writeA (P.gen true) 8 [1, 2, 3] [.late 3, .ql, .ql, .ql]).1.j = 5 := by decide
/-- an answer to a send of an earlier fragment does not acknowledge the current one: it is sent again -/
example : writeA (P.gen false) 1 [1, 2] [.dup] = ({ j := 3, srv := 2, hist := [0, 1, 1] }, 2, true) := by decide

end SA.DnsAnswers

namespace SA.DnsWrites
open SA.Queue

/-! ## What `Write` reports (several application writes, failures part-way, the caller continues with b[n:])

  Model: SA.Model.DnsWrites — the fragment loop of `OutQueue.Write` with its callback
  (`outChunkAdded` → `SendAndReceive`, 5 tries), the poll loop's body, parked Writes, application
  reads, for any script of communicator fates; every step is an SA.Queue event, so the theorems above
  apply.  `posU` = Σ n over the client's Writes; the application stream is `streamU`, and because a
  write of k bytes hands over `streamU posU k` and then advances by n, the concatenation of the
  accepted prefixes Σ b[:n] is `streamU 0 posU`. -/

/-- regenerated fact (`SA.Gen.c07WriteCount`): in the fragment loop `n += len(data)` runs before the
    `if err != nil { return }` that follows `addChunk`.  Fails to compile when the order changes. -/
theorem Facts.gen_counts_enqueued : Facts.gen.countPos = 0 := rfl

/-- regenerated fact (`SA.Gen.c07PollArg`) about the loop of the goroutine `Handshake` starts: a turn hands
    `dc.out.NextChunk()` — the oldest unacknowledged fragment — to `SendAndReceive`.  Fails to compile when the loop
    sends a bare poll. -/
theorem Facts.gen_pollArg : Facts.gen.pollArg = 0 := rfl

/-- regenerated fact (`SA.Gen.c07PollStops`): nothing in the body of that loop leaves it (it runs while
    `!dc.Closed()`).  Fails to compile when the loop gains a break / return. -/
theorem Facts.gen_pollStops : Facts.gen.pollStops = 0 := rfl

/-- histories of the multi-write model: fragment size > 0, server writes of at most `Bd` bytes -/
def WritesBounded (mtu Bd : Nat) (es : List WEv) : Prop :=
  0 < mtu ∧ 1 ≤ Bd ∧ Bd + Cfg.gen.max + 3 ≤ MOD ∧ es.all (WEv.ok Bd) = true

instance (mtu Bd : Nat) (es : List WEv) : Decidable (WritesBounded mtu Bd es) := by
  unfold WritesBounded; infer_instance

/-- **what Write reports is what was enqueued**: after any history of writes (whole, failed part-way
    on any fragment, parked and resumed), polls and reads, under any script of communicator fates, the
    bytes accepted at the client in the sense of `C07_safety` (`End.acc`: every fragment ever put into
    the out-queue, delivered or still to be retransmitted) are exactly the first Σ n bytes of the
    application's stream; and the history is a well-bounded history of SA.Queue events. -/
theorem C07_write_reports_enqueued (sab sba mtu Bd : Nat) (fates : List XF) (es : List WEv)
    (h : WritesBounded mtu Bd es) :
    (runW Facts.gen mtu (start sab sba fates) es).core.sys.a.acc
        = streamU 0 (runW Facts.gen mtu (start sab sba fates) es).posU ∧
    (runW Facts.gen mtu (start sab sba fates) es).core.sys
        = runS Cfg.gen mtu (init sab sba) (runW Facts.gen mtu (start sab sba fates) es).core.evs.reverse ∧
    WellBounded Cfg.gen mtu 0 Bd (runW Facts.gen mtu (start sab sba fates) es).core.evs.reverse := by
  obtain ⟨hm, hBd, hb, hes⟩ := h
  have inv := runW_inv hm hBd Facts.gen_counts_enqueued Facts.gen_pollArg
    (start_inv (sab := sab) (sba := sba) fates) es hes
  refine ⟨inv.acc, inv.reach.run, hm, by omega, ?_⟩
  rw [List.all_reverse]; exact inv.reach.wb

/-- **reads ⊑ Σ b[:n]**: at every point of every such history the bytes released to the reader at the
    server end are a prefix of the concatenation of the prefixes the client's Writes accepted, and they
    are equal whenever the client's out-queue is empty (in particular after a loss-free tail). -/
theorem C07_reads_prefix_of_reported (sab sba mtu Bd : Nat) (fates : List XF) (es : List WEv)
    (hsab : sab < MOD) (hsba : sba < MOD) (h : WritesBounded mtu Bd es) :
    (runW Facts.gen mtu (start sab sba fates) es).core.sys.b.inq.rel
        <+: streamU 0 (runW Facts.gen mtu (start sab sba fates) es).posU ∧
    ((runW Facts.gen mtu (start sab sba fates) es).core.sys.a.outq.out = [] →
      (runW Facts.gen mtu (start sab sba fates) es).core.sys.b.inq.rel
        = streamU 0 (runW Facts.gen mtu (start sab sba fates) es).posU) := by
  obtain ⟨hacc, hrun, hwb⟩ := C07_write_reports_enqueued sab sba mtu Bd fates es h
  have h1 := (C07_safety sab sba mtu 0 Bd _ hsab hsba hwb).1
  have h2 := (C07_write_ok_delivered sab sba mtu 0 Bd _ hsab hsba hwb).1
  rw [← hrun, hacc] at h1 h2
  exact ⟨h1, h2⟩

/-- the two statements of the fragment loop the other way round (not today's code): `if err != nil { return }` first,
    `n += len(data)` after it, so a fragment that is queued but whose exchange failed is not counted -/
def Facts.countAfterReturn : Facts := { Facts.gen with countPos := 1, pollArg := 0, pollStops := 0 }

/-- kernel-checked counter-example for that ordering: a 3-fragment Write whose second exchange loses its
    query five times reports n = 1, the poll loop then delivers the second fragment, and the server end
    has released 2 bytes: not a prefix of the 1 byte accepted.
    (`dnswrites mtu=1 sab=0 sba=0 w3 p / ok ql ql ql ql ql`) -/
theorem C07_witness_count_after_return :
    (runW Facts.countAfterReturn 1 (start 0 0 [.ok, .ql, .ql, .ql, .ql, .ql]) [.w 3, .p]).posU = 1 ∧
    ¬ ((runW Facts.countAfterReturn 1 (start 0 0 [.ok, .ql, .ql, .ql, .ql, .ql]) [.w 3, .p]).core.sys.b.inq.rel
        <+: streamU 0 (runW Facts.countAfterReturn 1 (start 0 0 [.ok, .ql, .ql, .ql, .ql, .ql]) [.w 3, .p]).posU) := by
  decide +kernel

/-! non-vacuity: the same history with the current accounting reports n = 2, and 2 bytes are released -/
example : (runW Facts.gen 1 (start 0 0 [.ok, .ql, .ql, .ql, .ql, .ql]) [.w 3, .p]).posU = 2 ∧
    (runW Facts.gen 1 (start 0 0 [.ok, .ql, .ql, .ql, .ql, .ql]) [.w 3, .p]).core.sys.b.inq.rel = streamU 0 2 := by
  decide +kernel

example : WritesBounded 3 5000 [.w 7, .W 5000, .p, .D, .w 1, .N, .r 2, .R 9, .w 0] := by decide

/-! ## The poll loop delivers what the Writes left behind

  A client Write whose exchange is lost five times returns with its fragment still in the out-queue (and
  counted in n, `C07_write_reports_enqueued`).  Nothing but the loop of the goroutine `Handshake` starts
  ever sends that fragment again.  `pollLoop f mtu n` is `n` turns of that loop (SA.Model.DnsWrites), its
  body parameterised by the regenerated facts `pollArg` (what a turn hands to `SendAndReceive`) and
  `pollStops` (statements that leave the loop). -/

/-- the state of the multi-write model when the path has healed: the fate script is over, every further
    communicator call is delivered -/
def healed (c : Core) : Core := { c with fates := [], dflt := .ok }

/-- **eventual delivery by the client's own poll loop**: after ANY history of writes (whole, given up
    part-way on any fragment, parked), polls and reads under ANY script of communicator fates, once the
    path has healed `n` turns of the poll loop — and nothing else — with `n ≥ |A.out|`, `n ≥ |B.out| + 1`
    leave both out-queues empty, the server end has released exactly the first Σ n bytes of the client
    application's stream (everything the client's Writes reported as accepted), and the client end has
    released everything the server's Writes accepted.  Depends on the regenerated loop facts
    (`Facts.gen_pollArg`, `Facts.gen_pollStops`): with a bare poll it is false (`C07_witness_bare_poll`). -/
theorem C07_eventual_delivery_by_poll (sab sba mtu Bd : Nat) (fates : List XF) (es : List WEv)
    (hsab : sab < MOD) (hsba : sba < MOD) (h : WritesBounded mtu Bd es) (n : Nat)
    (hna : (runW Facts.gen mtu (start sab sba fates) es).core.sys.a.outq.out.length ≤ n)
    (hnb : (runW Facts.gen mtu (start sab sba fates) es).core.sys.b.outq.out.length + 1 ≤ n) :
    (pollLoop Facts.gen mtu n (healed (runW Facts.gen mtu (start sab sba fates) es).core)).sys.a.outq.out = [] ∧
    (pollLoop Facts.gen mtu n (healed (runW Facts.gen mtu (start sab sba fates) es).core)).sys.b.outq.out = [] ∧
    (pollLoop Facts.gen mtu n (healed (runW Facts.gen mtu (start sab sba fates) es).core)).sys.b.inq.rel
      = streamU 0 (runW Facts.gen mtu (start sab sba fates) es).posU ∧
    (pollLoop Facts.gen mtu n (healed (runW Facts.gen mtu (start sab sba fates) es).core)).sys.a.inq.rel
      = (runW Facts.gen mtu (start sab sba fates) es).core.sys.b.acc := by
  obtain ⟨hacc, hrun, hwb⟩ := C07_write_reports_enqueued sab sba mtu Bd fates es h
  have htries : Facts.gen.tries = 4 + 1 := rfl
  have hl : _ = runS Cfg.gen mtu _ (pollEvs n) :=
    (pollLoop_healthy (f := Facts.gen) (mtu := mtu) Facts.gen_pollArg Facts.gen_pollStops htries n
      (healed (runW Facts.gen mtu (start sab sba fates) es).core) ⟨rfl, rfl⟩).1
  have d := lossy_tail_drains h.1 Cfg.gen_live (reach_inv Cfg.gen_good hsab hsba hwb) (pollEvs_all_tailOk 0 n)
    (by rw [pollEvs_count, ← hrun]; exact hna) (by rw [pollEvs_count, ← hrun]; exact hnb)
  rw [← hrun] at d
  have hs : (healed (runW Facts.gen mtu (start sab sba fates) es).core).sys
      = (runW Facts.gen mtu (start sab sba fates) es).core.sys := rfl
  rw [hl, hs]
  exact ⟨d.aout, d.bout, d.brel.trans hacc, d.arel⟩

/-- the loop with a bare poll (not today's code): every turn is `dc.SendAndReceive(nil)`, whatever is queued -/
def Facts.barePoll : Facts := { Facts.gen with pollArg := 1 }

/-- the state in which the bare-poll loop is stuck: one client Write of one byte whose exchange lost its
    query five times (`dnswrites mtu=1 sab=0 sba=0 w1 / ql ql ql ql ql`), the path healed, one turn -/
def stuckCore : Core :=
  pollLoop Facts.barePoll 1 1 (healed (runW Facts.barePoll 1 (start 0 0 [.ql, .ql, .ql, .ql, .ql]) [.w 1]).core)

/-- kernel-checked counter-example for the bare poll, for EVERY number of turns: the Write reported its
    byte as accepted (n = 1), the fragment is in the out-queue, the path heals — and however long the loop
    runs, the fragment stays queued (so every later Write parks in waitEmptyQueue for ever) and the server
    end has released nothing.  One bare exchange maps the state of the queue pair to itself
    (`pollLoop_bare_fix`).  On the real code: `dnspoll mtu=1 Lq w1 H`. -/
theorem C07_witness_bare_poll (n : Nat) :
    (runW Facts.barePoll 1 (start 0 0 [.ql, .ql, .ql, .ql, .ql]) [.w 1]).posU = 1 ∧
    (pollLoop Facts.barePoll 1 n stuckCore).sys.a.outq.out.length = 1 ∧
    (pollLoop Facts.barePoll 1 n stuckCore).sys.b.inq.rel = [] ∧
    ¬ ((pollLoop Facts.barePoll 1 n stuckCore).sys.b.inq.rel
        = streamU 0 (runW Facts.barePoll 1 (start 0 0 [.ql, .ql, .ql, .ql, .ql]) [.w 1]).posU) := by
  have hfix : (bareXchg Facts.barePoll.cfg stuckCore.sys true true).1 = stuckCore.sys := by rfl
  have hS := pollLoop_bare_fix (f := Facts.barePoll) (mtu := 1) (k := 4) (by decide) (by decide) hfix n stuckCore
    ⟨by rfl, by rfl⟩ rfl
  rw [hS]
  decide +kernel

/-! non-vacuity: the same history with the regenerated loop — one turn delivers the byte -/
example : (pollLoop Facts.gen 1 1 (healed (runW Facts.gen 1 (start 0 0 [.ql, .ql, .ql, .ql, .ql]) [.w 1]).core)).sys.b.inq.rel
    = streamU 0 1 := by decide

example := C07_eventual_delivery_by_poll 0 0 1 5 [.ql, .ql, .ql, .ql, .ql] [.w 1] (by decide) (by decide) (by decide) 1
  (by decide +kernel) (by decide +kernel)

/-- the loop's sleep in microseconds for a given `selectTimeout`, jitter draw `j < N` and error count, as the source
    computes it: `time.Duration(dc.selectTimeout+jitter+(errCount*B)) * unit` with `jitter = j - M` (a negative
    duration is replaced by 250 ns: counted as 0 here) -/
def pollSleepUs (sel j errCount : Nat) : Nat :=
  (sel + j + errCount * Gen.c07PollBackoff - Gen.c07PollJitterOff) * Gen.c07PollUnitUs

/-- **the loop keeps turning**: with the regenerated constants a turn sleeps at most `selectTimeout` + 1.35 s
    (the error count never exceeds 6: beyond 5 the loop closes the connection), i.e. < 1.5 s in lazy mode
    (`selectTimeout = 0`) and < 2.5 s in legacy mode (`selectTimeout = 1000`). -/
theorem C07_poll_period_bounded (sel j errCount : Nat) (hj : j < Gen.c07PollJitterN) (he : errCount ≤ 6) :
    pollSleepUs sel j errCount ≤ (sel + 1350) * 1000 := by
  -- the regenerated constants, by definition: back-off 200, jitter `j - 150` with `j < 300`, unit 1000 µs
  have hj : j < 300 := hj
  show (sel + j + errCount * 200 - 150) * 1000 ≤ _
  omega

end SA.DnsWrites

#print axioms SA.Queue.C07_safety
#print axioms SA.Queue.C07_write_ok_delivered
#print axioms SA.Queue.C07_wrap
#print axioms SA.Queue.C07_eventual_delivery
#print axioms SA.Queue.C07_eventual_delivery_lossy
#print axioms SA.Queue.C07_delivered_exchange_progress
#print axioms SA.Queue.C07_witness_wrap
#print axioms SA.Queue.C07_witness_wrap_stmt
#print axioms SA.Queue.C07_witness_wrap_cache
#print axioms SA.Queue.C07_window_loop
#print axioms SA.Queue.C07_window_accepts_iff
#print axioms SA.Queue.C07_window_closed_form_iff
#print axioms SA.Queue.C07_window_refuses_behind
#print axioms SA.Queue.C07_stale_packet_refused
#print axioms SA.Queue.C07_parked_iff_window
#print axioms SA.Queue.C07_witness_int16_window
#print axioms SA.DnsExchange.C07_loss_absorbed
#print axioms SA.DnsExchange.C07_witness_loss_not_absorbed
#print axioms SA.DnsAnswers.C07_answer_ids_unchecked
#print axioms SA.DnsAnswers.C07_late_absorbed
#print axioms SA.DnsAnswers.C07_answer_means_handled
#print axioms SA.DnsAnswers.C07_late_write_absorbed
#print axioms SA.DnsAnswers.C07_witness_id_ring
#print axioms SA.DnsWrites.C07_write_reports_enqueued
#print axioms SA.DnsWrites.C07_reads_prefix_of_reported
#print axioms SA.DnsWrites.C07_witness_count_after_return
#print axioms SA.DnsWrites.C07_eventual_delivery_by_poll
#print axioms SA.DnsWrites.C07_witness_bare_poll
#print axioms SA.DnsWrites.C07_poll_period_bounded

namespace SA.PkgState
/-- **no_hidden_process_state**: the models of this property are functions of their arguments and of the objects they are
    handed; the packages they model keep no package-level variables besides these (regenerated inventory: error
    sentinels, tables, compiled patterns, the two session time-outs).  A new package-level variable — a counter, a cache, a
    scratch buffer, a shared map, a registry — would make later calls depend on earlier ones, or concurrent calls on each
    other, outside anything a per-call comparison of model and code can see. -/
theorem C07_no_hidden_process_state :
    Gen.pkgVarNames_dnsutil = ["DotRegex", "DownloadCodecCheck", "ErrCaseSwap", "ErrDeadlineExceeded", "ErrInvalidSequenceNumber", "ErrStreamBroken", "ErrTooLong", "QueryTypeA", "QueryTypeAAAA", "QueryTypeCname", "QueryTypeMx", "QueryTypeNull", "QueryTypePrivate", "QueryTypeSrv", "QueryTypeTxt", "QueryTypesByPriority"] ∧
    Gen.pkgVarNames_dns = ["ConnectionTimeout", "ErrConnectionFailed", "ErrHandshakeNotCompleted", "OldConnectionTimeout"] := ⟨rfl, rfl⟩
end SA.PkgState

#print axioms SA.PkgState.C07_no_hidden_process_state
