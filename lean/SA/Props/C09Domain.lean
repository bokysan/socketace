/-
  C09, continued — the tunnel domain as configured.

  The client writes the configured domain behind the encoded request (`PrepareHostname`), the server removes it
  by comparing the end of the unpacked question name with its own configured spelling (`StripDomain`,
  case-insensitively).  The model takes the domain as the byte string of the configuration, and the `dnsreq`
  correspondence drives every spelling class (final dot, upper / mixed case, one label, many labels, 63/64-octet
  labels, long, characters that need escaping, malformed) through the real code: the request is decoded as sent
  or a failure is reported; a request decoded differently is a monitor failure.

  For a domain written *fully qualified* (with its final dot) the current code builds a name that ends in two
  dots, which does not pack: the client gets an error, nothing is sent.  That is the model's statement below —
  for every request, codec and domain text.  (A client that tolerates the final dot while the server's
  StripDomain still compares with the configured spelling leaves the domain's characters in the request data;
  the monitor exhibits that.)
-/
import SA.Props.C09Inst
namespace SA.DnsReq
open SA.DnsWire SA.WireCodec

/-- **C09, a tunnel domain written with its final dot is a reported failure**: for every codec pair, cache
    characters, request and domain text `p`, if neither the encoded request nor `p` contains a backslash (true
    of every selectable codec, `alphabet_safe`, and of host names), the outcome is ErrTooLong or a pack error. -/
theorem C09_fqdn_domain_reported (b32 up : Codec) (cache p : List Nat) (r : Req)
    (hp : ∀ c ∈ p, c ≠ bsl) (hdata : ∀ c ∈ encodeReq b32 up cache r, c ≠ bsl) :
    roundTrip b32 up cache (p ++ [dot]) r = .encError ∨ roundTrip b32 up cache (p ++ [dot]) r = .packError := by
  cases hh : prepareHostname (encodeReq b32 up cache r) (p ++ [dot]) with
  | none => exact .inl (roundTrip_too_long hh)
  | some host => exact .inr (roundTrip_wire_error hh (prepareHostname_fqdn hh hdata hp))

/-- a domain configured with its final dot, in the executable model: "t.ex." is a pack error, "t.ex" and its
    upper-case spelling "T.EX" round-trip -/
example :
    roundTrip base32 base32 [97, 98, 99] [116, 46, 101, 120, 46] (.packet 7 300 (some (9, [1, 2, 250]))) = .packError
    ∧ (match roundTrip base32 base32 [97, 98, 99] [116, 46, 101, 120] (.packet 7 300 (some (9, [1, 2, 250]))) with
       | .ok _ _ r => r == .packet 7 300 (some (9, [1, 2, 250])) | _ => false) = true
    ∧ (match roundTrip base32 base32 [97, 98, 99] [84, 46, 69, 88] (.packet 7 300 (some (9, [1, 2, 250]))) with
       | .ok _ _ r => r == .packet 7 300 (some (9, [1, 2, 250])) | _ => false) = true := by decide +kernel

end SA.DnsReq

#print axioms SA.DnsReq.C09_fqdn_domain_reported
