/-
  C01 — End-to-end byte-stream fidelity over every transport (the socketace glue; transports are
  hypotheses).

  The layers of the read path are the `Reader`s of Proofs/Framing; `Reader.Lawful` is the stream contract.  Over lawful
  layers the copy loop of `streams.pipeData` writes exactly what was owed and the handshake's bufio reader is lawful
  again, so any stack of them delivers what was written — for all payloads, all segmentations chosen by the transports
  and all caller buffer sizes; the theorems on `copyLoop`, `bufRead`, `wsBufRead` are these two read on the model's
  functions.  The websocket read path conserves the stream only because the regenerated fact `Gen.wsReadKeepsTail` is
  true.
  Third-party transports (TCP, unix, TLS, smux stream, KCP, io.Pipe, gorilla message delivery) enter as
  the hypothesis `Reader.Lawful`; the e2e correspondence samples that hypothesis, it does not prove it.
  Also here, each read off its proof module: the two wrappers around a logical stream (client-first gate, retry on a
  spurious end-of-stream), the seam between channel selection and payload (SA.ReadAhead), retransmission on the DNS
  carrier (SA.DnsLoss).
-/
import SA.Proofs.Framing
import SA.Proofs.ReadAhead
import SA.Gen.C17ReadAhead
import SA.Gen.PkgVars
import SA.Gen.LoopVars
import SA.Proofs.DnsLoss
namespace SA.Framing

/-- **copy_loop**: the chunks written by the copy loop concatenate to exactly what the reader owed. -/
theorem C01_copy_loop_preserves {σ : Type} (r : Reader σ) (hl : r.Lawful) (bufSize : Nat) (hb : 0 < bufSize)
    (s : σ) (fuel : Nat) (hf : (r.content s).length < fuel) :
    (r.copy bufSize fuel s).flatten = r.content s := by
  induction fuel generalizing s with
  | zero => omega
  | succ k ih =>
    have hc := hl.conserves s bufSize
    rw [Reader.copy]
    by_cases h : (r.read s bufSize).1 = []
    · -- nothing read: nothing was owed
      rw [if_pos h]
      exact (Decidable.not_not.mp fun he => hl.progress hb he h).symm
    · -- the chunk read is written; what is still owed is shorter, so the fuel lasts
      have hlen := congrArg List.length hc
      rw [List.length_append] at hlen
      have hpos := List.length_pos_iff.mpr h
      rw [if_neg h, List.flatten_cons, ih _ (by omega), hc]

theorem copyLoop_flatten (bufSize : Nat) (hb : 0 < bufSize) (s : Src) (fuel : Nat)
    (hf : s.flatten.length < fuel) : (copyLoop bufSize fuel s).flatten = s.flatten := by
  rw [copyLoop_eq_copy]; exact C01_copy_loop_preserves srcReader srcReader_lawful bufSize hb s fuel hf

/-- **debug_copy**: with a log writer that reports every chunk as fully written the debug-mode copy loop writes exactly
    what the plain one writes (hence everything `C01_copy_loop_preserves` says holds for it). -/
theorem C01_debug_copy_is_copy {σ : Type} (r : Reader σ) (logCount : List Nat → Nat) (hl : ∀ c, logCount c = c.length)
    (bufSize fuel : Nat) (s : σ) : r.copyDbg logCount bufSize fuel s = r.copy bufSize fuel s := by
  induction fuel generalizing s with
  | zero => rfl
  | succ k ih =>
    simp only [Reader.copyDbg, Reader.copy, hl, ↓reduceIte]
    split
    · rfl
    · rw [ih]

/-- streams/pipes.go logWriter.Write returns `len(p), nil` (regenerated) -/
theorem C01_log_writer_reports_all : Gen.logWriterReturnsLen = true := rfl

/-- **witness_short_log**: a log writer that reports at most 2 bytes cuts the stream after the first longer chunk. -/
theorem C01_witness_short_log :
    (srcReader.copyDbg (fun c => min c.length 2) 8 10 [[1, 2, 3], [4, 5]]).flatten = [1, 2, 3] ∧
    (srcReader.copy 8 10 [[1, 2, 3], [4, 5]]).flatten = [1, 2, 3, 4, 5] := by decide

/-- **stack_preserves (one layer)**: putting the handshake's buffered reader on top of a lawful
    layer gives a lawful layer — whatever the buffer size and the caller's read sizes. -/
theorem C01_buffered_lawful {σ : Type} (r : Reader σ) (hl : r.Lawful) (size : Nat) (hs : 0 < size) :
    (r.buffered size).Lawful := by
  refine ⟨buffered_conserve r hl.conserves size, ?_⟩
  rintro ⟨buf, s⟩ n hn hc
  have h := buffered_read r size buf s n
  generalize (r.buffered size).read (buf, s) n = x at h ⊢
  cases h with
  | buffer hb => exact take_ne_nil hn hb
  | through => exact hl.progress hn hc
  | fill => exact take_ne_nil hn (hl.progress hs hc)

def readsBuf (size : Nat) : Buf → List Nat → List (List Nat) × Buf
  | b, [] => ([], b)
  | b, n :: ns =>
      let r := bufRead size b n
      let rest := readsBuf size r.2 ns
      (r.1 :: rest.1, rest.2)

/-- **bufio_handoff** on the model of the code (buffer = `Gen.maxHeaderSize`): for every sequence of
    caller buffer sizes, what has been returned so far followed by what the reader still owes is the
    original stream. -/
theorem C01_bufio_handoff (b : Buf) (ns : List Nat) :
    (readsBuf Gen.maxHeaderSize b ns).1.flatten ++ (readsBuf Gen.maxHeaderSize b ns).2.content = b.content := by
  induction ns generalizing b with
  | nil => simp [readsBuf]
  | cons n ns ih =>
    simp only [readsBuf, List.flatten_cons, List.append_assoc]
    rw [ih, bufRead_conserve]

theorem C01_bufio_progress (b : Buf) (n : Nat) (hn : 0 < n) (hc : b.content ≠ []) :
    (bufRead Gen.maxHeaderSize b n).1 ≠ [] := by
  rw [bufRead_eq_buffered]
  exact (C01_buffered_lawful srcReader srcReader_lawful _ (by decide)).progress hn hc

/-- **ws_split**: the messages of one `Write(p)` concatenate to `p`, each at most `BufferSize` long. -/
theorem C01_ws_split (p : List Nat) :
    (wsWrite Gen.bufferSize p).flatten = p ∧ ∀ m ∈ wsWrite Gen.bufferSize p, m.length ≤ Gen.bufferSize :=
  ⟨wsWrite_flatten _ p, wsWrite_le _ (by decide) p⟩

/-- **ws_keeps_tail** — the regenerated fact the websocket carrier's fidelity rests on: `Read` must
    not reject a message longer than the caller's buffer (the 4096-byte bufio buffer in practice). -/
theorem C01_ws_keeps_tail : Gen.wsReadKeepsTail = true := rfl

/-- **ws_stream**: with that fact, a websocket read of the current code never fails, hands over a
    prefix of what is owed, and reports end-of-stream only when nothing is owed — for all messages
    and all caller buffer sizes. -/
theorem C01_ws_stream (w : Ws) (n : Nat) :
    (wsRead Gen.wsReadKeepsTail w n).1 ≠ .err ∧
    (∀ bs, (wsRead Gen.wsReadKeepsTail w n).1 = .data bs →
        bs ++ (wsRead Gen.wsReadKeepsTail w n).2.content = w.content) ∧
    ((wsRead Gen.wsReadKeepsTail w n).1 = .eof → w.content = []) := by
  rw [C01_ws_keeps_tail]
  obtain ⟨h1, h2, h3⟩ := wsRead_ok_conserve_eof w n
  exact ⟨h1, fun bs h => by rw [h] at h2; exact h2, h3⟩

/-- a run of reads with the given caller buffer sizes: chunks returned, whether an error occurred -/
def readsWsBuf (keeps : Bool) (size : Nat) : WsBuf → List Nat → List (List Nat) × Bool × WsBuf
  | b, [] => ([], false, b)
  | b, n :: ns =>
      match wsBufRead keeps size b n with
      | (.data bs, b') => let r := readsWsBuf keeps size b' ns; (bs :: r.1, r.2.1, r.2.2)
      | (.eof, b') => ([], false, b')
      | (.err, b') => ([], true, b')

/-- **ws_stack_handoff** (the property for the websocket carrier's read path): for all written
    messages and all sequences of caller buffer sizes, the stack `bufio ∘ wsRead` of the current
    code never fails, and what it returned followed by what it still owes is the written stream. -/
theorem C01_ws_stack_handoff (b : WsBuf) (ns : List Nat) :
    (readsWsBuf Gen.wsReadKeepsTail Gen.maxHeaderSize b ns).2.1 = false ∧
    ((readsWsBuf Gen.wsReadKeepsTail Gen.maxHeaderSize b ns).1.flatten ++
      (readsWsBuf Gen.wsReadKeepsTail Gen.maxHeaderSize b ns).2.2.content = b.content) := by
  rw [C01_ws_keeps_tail]
  induction ns generalizing b with
  | nil => simp [readsWsBuf]
  | cons n ns ih =>
    obtain ⟨hne, hc⟩ := wsBufRead_ok_conserve Gen.maxHeaderSize b n
    simp only [readsWsBuf]
    cases hr : wsBufRead true Gen.maxHeaderSize b n with
    | mk o b' =>
      rw [hr] at hne hc
      cases o with
      | data bs =>
        simp only [List.flatten_cons, List.append_assoc]
        exact ⟨(ih b').1, by rw [(ih b').2]; exact hc⟩
      | eof => exact ⟨rfl, hc⟩
      | err => exact absurd rfl hne

/-- what the rejecting variant does (the behaviour of the code before the repair): a message longer
    than the bufio buffer is an error and the carrier is dead (shown with buffer 16 / message 20 so
    that the kernel evaluates it; the real sizes are 4096 / any smux frame above 4088 payload bytes,
    replayed on the implementation by corpus/C01). -/
theorem C01_witness_ws_reject :
    (readsWsBuf false 16 { buf := [], ws := { pending := [], msgs := [stream 20] } } [8]).2.1 = true := by
  decide

/-- **frame_fits**: one smux frame (8-byte header + MaxFrameSize payload) is one websocket message
    on both ends. -/
theorem C01_frame_fits :
    8 + Gen.maxFrameSizeServer ≤ Gen.bufferSize ∧ 8 + Gen.maxFrameSizeClient ≤ Gen.bufferSize ∧
    Gen.copyBufferSize = Gen.bufferSize := by decide

/-- **stack_preserves (end to end)**: two copy loops (client listener hop, server channel hop) over
    lawful layers deliver to the target exactly what the application's socket owed — for every
    payload and every segmentation the layers choose.  `rechunk` is how the carrier re-chunks what the
    first hop wrote. -/
theorem C01_stack_preserves {σ : Type} (app : Reader σ) (happ : app.Lawful) (s : σ)
    (rechunk : List (List Nat) → Src) (hre : ∀ cs, (rechunk cs).flatten = cs.flatten)
    (f1 f2 : Nat) (h1 : (app.content s).length < f1) (h2 : (app.content s).length < f2) :
    (srcReader.copy Gen.copyBufferSize f2
        (rechunk (app.copy Gen.copyBufferSize f1 s))).flatten = app.content s := by
  have e1 := C01_copy_loop_preserves app happ Gen.copyBufferSize (by decide) s f1 h1
  have e2 := C01_copy_loop_preserves srcReader srcReader_lawful Gen.copyBufferSize (by decide)
    (rechunk (app.copy Gen.copyBufferSize f1 s)) f2 (by
      show (List.flatten _).length < f2
      rw [hre, e1]; exact h2)
  rw [e2]; show (List.flatten _) = _; rw [hre, e1]

/-! ### the two wrappers socketace puts around logical streams -/

/-- **client_first_gate**: the server's first `Write` on a new logical stream is handed on only when bytes from the
    client are buffered (so the client has registered the stream), it consumes none of them, and reads through the
    wrapper conserve the stream before and after — for all arrival chunkings and read sizes. -/
theorem C01_client_first_gate (c : CF) (hfresh : c.peeked = false) :
    ((cfWrite Gen.bufferSize c).1 = true → (cfWrite Gen.bufferSize c).2.rd.buf ≠ []) ∧
    (cfWrite Gen.bufferSize c).2.rd.content = c.rd.content ∧
    (∀ n, (cfRead Gen.bufferSize c n).1 ++ (cfRead Gen.bufferSize c n).2.rd.content = c.rd.content) := by
  -- the first `Write` is the `Peek(1)`
  have e : cfWrite Gen.bufferSize c = ((peek1 Gen.bufferSize c.rd).1,
      { rd := (peek1 Gen.bufferSize c.rd).2, peeked := true, peekOk := (peek1 Gen.bufferSize c.rd).1 }) := by
    simp only [cfWrite, hfresh]; rfl
  rw [e]
  exact ⟨(peek1_spec _ _).1, (peek1_spec _ _).2, fun n => bufRead_conserve _ _ _⟩

/-- **mux_retry**: reading through `MuxStreamConnection` until it reports end-of-stream hands over all data up to
    the genuine end, whatever spurious single end-of-stream answers the multiplexer interleaves. -/
theorem C01_mux_retry_delivers (s : List RawRead) (fuel : Nat) (hf : s.length < fuel) :
    muxDrain fuel s = scriptData s := by
  induction fuel generalizing s with
  | zero => omega
  | succ k ih =>
    match s with
    | .data bs :: rest | .eof :: .data bs :: rest =>
      -- data, perhaps behind one spurious end-of-stream: both sides hand it over and go on with `rest`
      simp only [muxDrain, muxRead, scriptData]
      rw [ih rest (by simp at hf; omega)]
    | [] | .err :: _ | [.eof] | .eof :: .eof :: _ | .eof :: .err :: _ =>
      -- a genuine end or an error: both sides stop
      simp [muxDrain, muxRead, scriptData]

/-- reading the underlying stream directly (the behaviour before the repair): stop at the first end-of-stream -/
def noRetryDrain : List RawRead → List Nat
  | .data bs :: rest => bs ++ noRetryDrain rest
  | _ => []

/-- without the retry a spurious end-of-stream loses the data behind it -/
theorem C01_witness_mux_no_retry :
    noRetryDrain [.data [9], .eof, .data [1, 2, 3]] = [9] ∧
    scriptData [.data [9], .eof, .data [1, 2, 3]] = [9, 1, 2, 3] := by decide

/-- the copy loop reads a logical stream through `MuxStreamConnection.Read` (the `muxRead` of the model): the wrapper
    offers io.Copy no `WriteTo`/`ReadFrom` that would take the data around it. -/
theorem C01_mux_read_is_the_data_path : Gen.muxStreamFastPaths = [] := rfl

example : muxDrain 5 [.data [9], .eof, .data [1, 2], .eof, .eof] = [9, 1, 2] := by decide
example : (cfWrite 4 { rd := { buf := [], src := [[7, 8]] }, peeked := false, peekOk := false }).1 = true := by decide
example : (cfWrite 4 { rd := { buf := [], src := [] }, peeked := false, peekOk := false }).1 = false := by decide
example : srcReader.Lawful := srcReader_lawful
example : (srcReader.buffered 4096).Lawful := C01_buffered_lawful _ srcReader_lawful 4096 (by decide)
example : (readsBuf 16 { buf := [], src := [stream 10, stream 50 10] } [8, 16, 5]).1.map List.length
    = [8, 2, 5] := by decide

end SA.Framing

#print axioms SA.Framing.C01_copy_loop_preserves
#print axioms SA.Framing.C01_buffered_lawful
#print axioms SA.Framing.C01_bufio_handoff
#print axioms SA.Framing.C01_bufio_progress
#print axioms SA.Framing.C01_ws_split
#print axioms SA.Framing.C01_ws_keeps_tail
#print axioms SA.Framing.C01_ws_stream
#print axioms SA.Framing.C01_ws_stack_handoff
#print axioms SA.Framing.C01_witness_ws_reject
#print axioms SA.Framing.C01_frame_fits
#print axioms SA.Framing.C01_stack_preserves
#print axioms SA.Framing.C01_client_first_gate
#print axioms SA.Framing.C01_mux_retry_delivers
#print axioms SA.Framing.C01_witness_mux_no_retry
#print axioms SA.Framing.C01_mux_read_is_the_data_path
#print axioms SA.Framing.C01_debug_copy_is_copy
#print axioms SA.Framing.C01_log_writer_reports_all
#print axioms SA.Framing.C01_witness_short_log

namespace SA.PkgState
/-- **no_hidden_process_state**: the models of this property are functions of their arguments and of the objects they are
    handed; the packages they model keep no package-level variables besides these (regenerated inventory: error
    sentinels, tables, compiled patterns, the two session time-outs).  A new package-level variable — a counter, a cache, a
    scratch buffer, a shared map, a registry — would make later calls depend on earlier ones, or concurrent calls on each
    other, outside anything a per-call comparison of model and code can see. -/
theorem C01_no_hidden_process_state :
    Gen.pkgVarNames_streams = ["Localhost"] ∧
    Gen.pkgVarNames_server = ["ChannelRegex"] := ⟨rfl, rfl⟩

/-- **per_item_handlers**: the module's language version is go 1.14 — a loop has one variable for all its iterations.
    No function literal inside a loop body captures a variable that the loop (re)assigns on every iteration, so the
    handler, callback or goroutine set up for one channel / endpoint / connection is not silently bound to a later
    one (regenerated inventory).  The three entries are addresses of a loop variable that are consumed before the next
    iteration: `EndpointHandler(&endpoint, …)` reads one field synchronously, and the two command look-ups leave their
    loop at once (`cmd = &c; break` / `return`). -/
theorem C01_per_item_handlers :
    Gen.goDirective = "1.14" ∧
    Gen.loopVarCaptures = ["internal/server/http_server.go Startup: address of loop variable endpoint taken", "internal/streams/dns/commands/serializer.go DetectCommandType: address of loop variable v taken", "internal/streams/dns/dns_server_connection.go onMessage: address of loop variable c taken"] := ⟨rfl, rfl⟩
end SA.PkgState

#print axioms SA.PkgState.C01_no_hidden_process_state
#print axioms SA.PkgState.C01_per_item_handlers

namespace SA.ReadAhead
/-- **selection_preserves_the_stream**: the server's channel selection reads through a buffered reader that takes whole
    chunks from the logical stream; for every chunking and every token length the bytes the selection consumed followed
    by the bytes the handler then copies to the target are the stream itself — no byte lost, duplicated or reordered at
    the seam between selection and payload. -/
theorem C01_selection_preserves_the_stream (k : Nat) (cs : List (List Nat)) :
    (take k (BR.ofChunks cs)).1 ++ viaWrapper k cs = cs.flatten :=
  take_viaWrapper k cs

/-- the code hands the handler that same buffered reader (regenerated) -/
theorem C01_handler_reads_through_wrapper :
    Gen.c17MuxHandleArgs = ["newClientFirstConn(multiplexChannel)"] ∧ Gen.c17MuxNegotiateCalls = 0 ∧
    Gen.c17WrapperReadsFrom = "c.reader.Read(p)" := ⟨rfl, rfl, rfl⟩
end SA.ReadAhead

#print axioms SA.ReadAhead.C01_selection_preserves_the_stream
#print axioms SA.ReadAhead.C01_handler_reads_through_wrapper

namespace SA.DnsLoss
/-- **dns_loss_retransmitted**: on the DNS carrier, for every number of exchanges and EVERY loss schedule of the path in
    which fewer than `tries` consecutive attempts are lost, every exchange of the stream completes — no fragment is
    dropped, the session is not torn down — provided an expired exchange is recognised as a time-out. -/
theorem C01_dns_loss_retransmitted (tries n : Nat) (s : List Fate) (h : maxRun s < tries) :
    transfer true tries n s = n := transfer_all tries n s h

/-- the code recognises it (regenerated): nothing between miekg's exchange and the time-out test re-creates the error
    from its text, the test looks at the cause, and there are five attempts — so the code's transfer survives every
    schedule with at most four losses in a row. -/
theorem C01_dns_loss_code (n : Nat) (s : List Fate) (h : maxRun s < 5) :
    transfer codeKeeps Gen.c07Tries n s = n := by
  have hk : codeKeeps = true := rfl
  have ht : Gen.c07Tries = 5 := rfl
  rw [hk, ht]; exact transfer_all 5 n s h

/-- witness of the regression class: when the time-out is NOT recognised (error flattened into text on the way up), a
    single lost datagram after `k` clean exchanges ends the transfer there — the target gets a prefix only. -/
theorem C01_witness_dns_loss_unrecognised (n k : Nat) (rest : List Fate) (hk : k < n) :
    transfer false 5 n (List.replicate k Fate.ok ++ Fate.lost :: rest) = k ∧ k ≠ n :=
  ⟨transfer_cut 5 n k rest hk (by decide), by omega⟩

example : maxRun [.ok, .lost, .lost, .ok, .lost] = 2 ∧ transfer true 5 4 [.ok, .lost, .lost, .ok, .lost] = 4 := by decide
example : transfer false 5 9 [.ok, .ok, .lost] = 2 := by decide
end SA.DnsLoss

#print axioms SA.DnsLoss.C01_dns_loss_retransmitted
#print axioms SA.DnsLoss.C01_dns_loss_code
#print axioms SA.DnsLoss.C01_witness_dns_loss_unrecognised
