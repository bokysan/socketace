/-
  C04 — Required or negotiated security never degrades to plaintext (decision logic; TLS is a parameter).

  Model: SA.Model.Security on top of SA.Model.Handshake.  `tls left : Bool` is what crypto/tls reports for the
  StartTLS handshake that starts when `left` is still unread on the carrier — a hypothesis about a third-party
  library, never an axiom: every theorem quantifies over all such functions.  The peer of the client is a script:
  any list of read chunks (any status, any headers, any bytes after the upgrade).

  Two kinds of statement.  About one end against any peer: the `mustSecure` guard and the answers of the two decision
  trees (`ClientAnswer`, `ServerAnswer`: of all outcomes two are sessions, and each says why it reports secure).  About
  the real client against the real server (`honestPair`): `honestPair_eq` follows the rendered messages through both
  ends once, after which a cell of a grid (`cell`, judged by `cellSafe`: the three clauses of the property) is a
  function of a few Booleans and the grid is a finite table.
-/
import SA.Proofs.HandshakeSteps
import SA.Proofs.Security
import SA.Gen.PkgVars
namespace SA.Security
open SA.Handshake

def isEstablished : Outcome → Bool
  | .established _ _ _ _ => true
  | _ => false

def certs : List CertMode := [.nil, .ok, .err, .empty, .nilcfg, .okerr]

/-- **the guard is sound for whatever the handshake is told about the carrier**: for every peer script, every carrier and every TLS behaviour, if a `Connect` with
    `mustSecure` hands back a connection then that connection reports secure; and a connection only ever reports
    secure because the carrier was already encrypted or because the StartTLS handshake was reported established. -/
theorem C04_connect_sound (secure0 mustSecure : Bool) (tls : B → Bool) (peer : List B)
    (v : B) (t : Tech) (s : Bool) (l : B)
    (h : connect secure0 mustSecure tls peer = .ok v t s l) :
    (mustSecure = true → s = true) ∧ (s = true → secure0 = true ∨ (t = .tls ∧ ∃ left, tls left = true)) := by
  obtain ⟨ho, hm⟩ := guard_ok_iff.mp h
  refine ⟨hm, fun hs => ?_⟩
  have a := clientRun_answer secure0 tls peer
  rw [ho] at a
  -- of the client's answers two are sessions: StartTLS-secured, or reporting what the handshake was told about the carrier
  cases a with
  | startTls _ hl => exact .inr ⟨rfl, _, hl⟩
  | plain => exact .inl hs

/-- the regenerated `secure` argument of each of the five kinds is true only on a TLS carrier -/
theorem gen_secureArg_honest : ∀ kind ∈ upstreamKinds, ∀ ctls aes must : Bool,
    secureArgValue (secureArgClass kind) ⟨ctls, aes, must⟩ = true → ctls = true := by decide

/-- **no upstream kind claims an encrypted carrier it does not have** (regenerated per kind: the expression passed as
    the `secure` argument of `NewClientConnection`, evaluated in every situation): the argument is true only when the
    carrier of that `Connect` really is a TLS connection; all five kinds are in the table. -/
theorem C04_secure_args_honest :
    Gen.c04SecureArgs.map (fun r => r.1) = upstreamKinds ∧
    ∀ kind ∈ upstreamKinds, ∀ ctls aes must : Bool,
      secureArgValue (secureArgClass kind) ⟨ctls, aes, must⟩ = true → ctls = true :=
  ⟨by decide, gen_secureArg_honest⟩

/-- **mustSecure is sound, per upstream kind, over the argument the kind really passes**: for every upstream kind, every
    situation (carrier TLS or not, udp shared secret or not, security required or not), every peer script and every TLS
    behaviour: if that kind's `Connect` hands back a connection, then with `mustSecure` it reports secure, and it reports
    secure only because the carrier really is TLS or because the StartTLS handshake was reported established. -/
theorem C04_mustSecure_sound (kind : String) (hk : kind ∈ upstreamKinds) (e : KindEnv) (tls : B → Bool) (peer : List B)
    (v : B) (t : Tech) (s : Bool) (l : B)
    (h : connectKind kind e tls peer = .ok v t s l) :
    (e.mustSecure = true → s = true) ∧
    (s = true → e.carrierTls = true ∨ (t = .tls ∧ ∃ left, tls left = true)) := by
  obtain ⟨h1, h2⟩ := C04_connect_sound _ _ tls peer v t s l h
  refine ⟨h1, fun hs => ?_⟩
  rcases h2 hs with h0 | h0
  · obtain ⟨ctls, aes, must⟩ := e
    exact Or.inl (gen_secureArg_honest kind hk ctls aes must h0)
  · exact Or.inr h0

/-- **only a successful Connect is stored**: whatever `Upstreams.open` keeps as its connection came from a `Connect`
    that returned nil, and with `MustSecure` it reports secure — application data (the multiplexer session) is only
    ever started on a stored connection. -/
theorem C04_open_stores_only_secure (mustSecure : Bool) (tls : B → Bool) (eps : List (Bool × List B)) (c : Connect)
    (h : openFirst mustSecure tls eps = some c) :
    ∃ v t s l, c = .ok v t s l ∧ (mustSecure = true → s = true) := by
  induction eps with
  | nil => cases h
  | cons e rest ih =>
    simp only [openFirst] at h
    split at h
    · rename_i v t s l hc
      cases h
      exact ⟨v, t, s, l, rfl, (guard_ok_iff.mp hc).2⟩
    · exact ih h

/-- the regenerated shape facts the two theorems above stand on: the guard `mustSecure && !cc.Secure()` returning an
    error is present in all five `Connect` functions, after `NewClientConnection` and before the connection is
    assigned; `Upstreams.open` passes `MustSecure` and assigns `ul.connection` only after `Connect` returned nil;
    `shouldStartTls` has the modelled form. -/
theorem C04_guard_shape :
    (∀ g ∈ Gen.mustSecureGuards, g.2.1 = true ∧ g.2.2 = true) ∧ Gen.mustSecureGuards.length = 5 ∧
    Gen.openStoresAfterConnect = true ∧ Gen.openPassesMustSecure = true ∧
    Gen.shouldStartTlsShape = "notSecureAndCapability" := by decide

/-- **the client asks for StartTLS exactly when it should**: `shouldStartTls` (which alone decides whether the
    upgrade request carries `Security: StartTLS` and whether the TLS handshake is started) holds iff the carrier is
    not yet secure and the upper-cased, comma-split capability list contains the token. -/
theorem C04_client_asks_iff (secure0 : Bool) (caps : B) :
    shouldStartTls secure0 caps = true ↔
      (secure0 = false ∧ goUpper Gen.capabilityStartTls ∈ (splitField (goUpper caps)).map goUpper) := by
  unfold shouldStartTls hasStartTls
  cases secure0
  · simp only [Bool.not_false, Bool.true_and, true_and, List.any_eq_true, beq_iff_eq, List.mem_map]
  · simp

/-- the upgrade request differs exactly by the `Security` header line -/
theorem C04_security_header_iff (ver : B) (b : Bool) :
    upgradeRequest ver b = upgradeRequest ver true ↔ b = true := by
  cases b
  · -- the two differ by the `Security` line alone, which is not empty
    simp only [upgradeRequest, Bool.false_eq_true, if_false, if_true, List.append_left_inj, List.append_right_inj]
    simp [crlf]
  · simp

/-- **the server never reports more security than there is**, and once a client asked for StartTLS on a server
    that supports it there is no plaintext session: the outcome is TLS or no session. -/
theorem C04_server_secure_sound (cfg : SrvCfg) (tls : B → Bool) (chunks : List B)
    (v : B) (t : Tech) (s : Bool) (l : B)
    (h : (serverRun cfg tls chunks).out = .established v t s l) :
    (s = true → cfg.secure = true ∨ (t = .tls ∧ supportTls cfg = true ∧ ∃ left, tls left = true)) ∧
    (t ≠ .tls → s = cfg.secure) := by
  have a := serverRun_answer cfg tls chunks
  generalize serverRun cfg tls chunks = res at a h
  -- of the server's answers only two are sessions
  cases a with
  | startTls v hsup htls => cases h; exact ⟨fun _ => .inr ⟨rfl, hsup, _, htls⟩, fun ht => absurd rfl ht⟩
  | plain v rest => cases h; exact ⟨fun hs => .inl hs, fun _ => rfl⟩
  | _ => cases h

/-- the server advertises StartTLS iff the carrier is not already secure and a certificate is configured -/
theorem C04_server_offers_iff (cfg : SrvCfg) :
    capsHeaders cfg = [(Gen.capabilitiesHdr, Gen.capabilityStartTls)] ↔
      (cfg.secure = false ∧ (cfg.cert = .ok ∨ cfg.cert = .okerr)) := by
  obtain ⟨sec, cert⟩ := cfg
  cases sec <;> cases cert <;> simp [capsHeaders, supportTls]

/-- **StartTLS is all or nothing (honest pair)**: the real client against the real server on a carrier that is not
    encrypted, with a server that offers StartTLS (every certificate-manager behaviour that makes it offer), for
    both outcomes of the TLS handshake: either both ends have a session over TLS that they both report secure, or
    neither end has a session.  (Complete finite table over `honestPair_eq`, which follows the rendered messages through
    both ends.) -/
theorem C04_starttls_all_or_nothing :
    ∀ cert ∈ certs, ∀ tlsOk ∈ [true, false],
      supportTls ⟨false, cert⟩ = true →
      let p := honestPair ⟨false, cert⟩ false tlsOk
      (p.server = .established Gen.c06ProtocolVersion .tls true [] ∧
         p.client = .established Gen.c06ProtocolVersion .tls true []) ∨
      (isEstablished p.server = false ∧ isEstablished p.client = false) := by
  simp only [honestPair_eq]
  decide

/-- **both ends agree on the security status (honest pair)**, over the whole grid carrier secure? x certificate
    manager x TLS outcome: whenever both ends have a session they report the same negotiated version, the same
    `secure` flag and the same security technology; and a session exists on one end only if it exists on the other. -/
theorem C04_secure_flag_agrees :
    ∀ sec ∈ [true, false], ∀ cert ∈ certs, ∀ tlsOk ∈ [true, false],
      let p := honestPair ⟨sec, cert⟩ sec tlsOk
      isEstablished p.server = isEstablished p.client ∧
      (isEstablished p.server = true → p.server = p.client) := by
  simp only [honestPair_eq]
  decide

/-- the three clauses of the property on one cell of the grid (Bool-valued so that the table is decidable) -/
def cellSafe (scheme : String) (scert must : Bool) : Cell → Bool
  | .est t s echo clear =>
    let ctls := tlsSchemes.contains scheme
    (!must || (s && (t == .tls || ctls) && echo && !clear)) &&
    (!(scert && !ctls) || (t == .tls && s && echo)) &&
    (!s || !clear)
  | _ => true

/-- **a cell of the scheme grid is safe whenever the flag its kind passes is honest**: any scheme, any kind.  After
    `honestPair_eq` the cell is a function of six Booleans (the scheme's carrier is TLS, it never verifies, the flag,
    server certificate, require-security, the certificate verdict); `honest` is what `gen_secureArg_honest` gives for
    the five kinds of the code. -/
theorem cellCore_safe (scheme : String) (scert must acc : Bool)
    (honest : secureArgValue (secureArgClass (kindOfScheme scheme)) ⟨tlsSchemes.contains scheme, false, must⟩ = true →
      tlsSchemes.contains scheme = true) :
    cellSafe scheme scert must (cellCore scheme scert must acc) = true := by
  simp only [cellCore, honestPair_eq]
  generalize secureArgValue _ _ = s0 at honest ⊢
  unfold cellSafe
  generalize tlsSchemes.contains scheme = ctls at honest ⊢
  generalize (scheme == "stdio+tls") = noVerify
  revert honest
  revert ctls noVerify s0 scert must acc
  decide

/-- **the end-to-end grid** (model of `seckinds`: the real client kind against the real server of that kind; scheme x
    server certificate x require-security x insecure flag x client CA, each kind with the `secure` argument it really
    passes; the rendered handshake messages enter through `honestPair_eq`, the rest is
    `cellCore_safe` with the honesty of the five kinds' arguments, `C04_secure_args_honest`): whenever a session exists
    (1) with require-security it is reported secure, is TLS-protected (StartTLS or a TLS carrier), works end to end and
    the payload is not in clear on the carrier; (2) on an unencrypted carrier with a server certificate (StartTLS
    offered) it is TLS, secure and works end to end; (3) reported secure => payload not in clear. -/
theorem C04_grid_never_plaintext :
    ∀ scheme ∈ ["tcp", "tcp+tls", "ws", "wss", "udp", "stdio", "stdio+tls", "dns"],
    ∀ scert must insecure ca : Bool,
      cellSafe scheme scert must (cell scheme scert must insecure ca) = true := by
  intro scheme hs scert must insecure ca
  refine cellCore_safe scheme scert must _ (gen_secureArg_honest (kindOfScheme scheme) ?_ _ _ _)
  -- left: `kindOfScheme scheme ∈ upstreamKinds`, for the eight schemes
  revert scheme
  decide

/-- a server that advertises StartTLS, TLS succeeding: the client secures the session -/
example : connect false true (fun l => l.isEmpty)
    [render ⟨200, [(Gen.capabilitiesHdr, Gen.capabilityStartTls), (bProtocolVersion, Gen.c06ProtocolVersion)]⟩ ++
     render ⟨101, []⟩] = .ok Gen.c06ProtocolVersion .tls true [] := by decide +kernel
/-- a peer that strips the capability: with mustSecure the guard fires, without it the session is plaintext -/
example : connect false true (fun l => l.isEmpty)
    [render ⟨200, [(bProtocolVersion, Gen.c06ProtocolVersion)]⟩ ++ render ⟨101, []⟩] = .insecureRejected := by
  decide +kernel
example : connect false false (fun l => l.isEmpty)
    [render ⟨200, [(bProtocolVersion, Gen.c06ProtocolVersion)]⟩ ++ render ⟨101, []⟩ ++ [7]]
      = .ok Gen.c06ProtocolVersion .none false [7] := by decide +kernel
/-- honest pair, certificate configured, TLS ok: both secure -/
example : honestPair ⟨false, .ok⟩ false true =
    ⟨.established Gen.c06ProtocolVersion .tls true [], .established Gen.c06ProtocolVersion .tls true []⟩ := by
  rw [honestPair_eq]; decide
/-- honest pair without certificate: plaintext on both ends (the opportunistic mode) -/
example : honestPair ⟨false, .nil⟩ false true =
    ⟨.established Gen.c06ProtocolVersion .none false [], .established Gen.c06ProtocolVersion .none false []⟩ := by
  rw [honestPair_eq]; decide

/-- per kind: udp with require-security against a peer that strips the capability is rejected, a TLS socket is kept -/
example : connectKind "packet" ⟨false, false, true⟩ (fun l => l.isEmpty)
    [render ⟨200, [(bProtocolVersion, Gen.c06ProtocolVersion)]⟩ ++ render ⟨101, []⟩] = .insecureRejected := by
  decide +kernel
example : connectKind "socket" ⟨true, false, true⟩ (fun l => l.isEmpty)
    [render ⟨200, [(bProtocolVersion, Gen.c06ProtocolVersion)]⟩ ++ render ⟨101, []⟩]
      = .ok Gen.c06ProtocolVersion .underlying true [] := by decide +kernel
/-- grid: udp + server certificate + require-security + CA => StartTLS; without the CA => no session -/
example : cell "udp" true true false true = .est .tls true true false := by
  unfold cell cellCore; rw [honestPair_fun]; decide
example : cell "udp" true true false false = .refused := by
  unfold cell cellCore; rw [honestPair_fun]; decide
example : cell "tcp" false false false false = .est .none false true true := by
  unfold cell cellCore; rw [honestPair_fun]; decide

end SA.Security

#print axioms SA.Security.C04_connect_sound
#print axioms SA.Security.C04_secure_args_honest
#print axioms SA.Security.C04_grid_never_plaintext
#print axioms SA.Security.C04_mustSecure_sound
#print axioms SA.Security.C04_open_stores_only_secure
#print axioms SA.Security.C04_guard_shape
#print axioms SA.Security.C04_client_asks_iff
#print axioms SA.Security.C04_security_header_iff
#print axioms SA.Security.C04_server_secure_sound
#print axioms SA.Security.C04_server_offers_iff
#print axioms SA.Security.C04_starttls_all_or_nothing
#print axioms SA.Security.C04_secure_flag_agrees

namespace SA.PkgState
/-- **no_hidden_process_state**: the models of this property are functions of their arguments and of the objects they are
    handed; the packages they model keep no package-level variables besides these (regenerated inventory: error
    sentinels, tables, compiled patterns, the two session time-outs).  A new package-level variable — a counter, a cache, a
    scratch buffer, a shared map, a registry — would make later calls depend on earlier ones, or concurrent calls on each
    other, outside anything a per-call comparison of model and code can see. -/
theorem C04_no_hidden_process_state :
    Gen.pkgVarNames_socketace = ["SupportedProtocolVersions"] ∧
    Gen.pkgVarNames_upstream = [] := ⟨rfl, rfl⟩
end SA.PkgState

#print axioms SA.PkgState.C04_no_hidden_process_state
